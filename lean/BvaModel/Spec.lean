/-!
# L0 — the abstract specification of bva

A bit vector is a pair (length, unsigned value) with `val < 2^len`; bit `i` is `val.testBit i`.
Every public operation of the crate is one short function here.  Nothing in this file
mentions storage words.  This file is import-free (core only) so that it can be compiled into
the driver executable.
-/
namespace Bva

/-- Abstract bit vector: `len` bits holding the unsigned value `val`. -/
structure BV where
  len : Nat
  val : Nat
deriving DecidableEq, Repr, Inhabited

namespace BV

/-- Well-formedness: the value fits in `len` bits. -/
def WF (a : BV) : Prop := a.val < 2 ^ a.len

instance (a : BV) : Decidable a.WF := by unfold WF; infer_instance

def bit (a : BV) (i : Nat) : Bool := a.val.testBit i

/-- The bits as a list, index 0 (least significant) first. -/
def bits (a : BV) : List Bool := (List.range a.len).map a.bit

/-- Build from a list of bits, index 0 first. -/
def ofBits : List Bool → BV
  | [] => ⟨0, 0⟩
  | b :: bs => let r := ofBits bs; ⟨r.len + 1, b.toNat + 2 * r.val⟩

def zeros (n : Nat) : BV := ⟨n, 0⟩
def ones (n : Nat) : BV := ⟨n, 2 ^ n - 1⟩
def «repeat» (b : Bool) (n : Nat) : BV := if b then ones n else zeros n

/-- Reduce a value modulo `2^n`, as length-`n` vector. -/
def trunc (n v : Nat) : BV := ⟨n, v % 2 ^ n⟩

-- arithmetic ------------------------------------------------------------------------------------
def add (a x : BV) : BV := ⟨a.len, (a.val + x.val) % 2 ^ a.len⟩
def sub (a x : BV) : BV := ⟨a.len, (a.val + 2 ^ a.len - x.val % 2 ^ a.len) % 2 ^ a.len⟩
def mul (a x : BV) : BV := ⟨a.len, (a.val * x.val) % 2 ^ a.len⟩
/-- Only meaningful for `x.val ≠ 0` (the code panics otherwise). -/
def div (a x : BV) : BV := ⟨a.len, a.val / x.val⟩
def rem (a x : BV) : BV := ⟨a.len, a.val % x.val⟩

-- bitwise ---------------------------------------------------------------------------------------
def and (a x : BV) : BV := ⟨a.len, a.val &&& x.val⟩
def or (a x : BV) : BV := ⟨a.len, a.val ||| (x.val % 2 ^ a.len)⟩
def xor (a x : BV) : BV := ⟨a.len, a.val ^^^ (x.val % 2 ^ a.len)⟩
def not (a : BV) : BV := ⟨a.len, 2 ^ a.len - 1 - a.val⟩

-- shifts ----------------------------------------------------------------------------------------
/-- `a << k` = `(val · 2^k) mod 2^len` (lemma `BV.shl_eq`, `BvaProofs/L0.lean`); the guard only keeps huge amounts
(`k` up to `2^128`) computable. -/
def shl (a : BV) (k : Nat) : BV := if a.len ≤ k then ⟨a.len, 0⟩ else ⟨a.len, (a.val <<< k) % 2 ^ a.len⟩
/-- `a >> k` = `⌊val / 2^k⌋` (lemma `BV.shr_eq`, for well-formed `a`) -/
def shr (a : BV) (k : Nat) : BV := if a.len ≤ k then ⟨a.len, 0⟩ else ⟨a.len, a.val >>> k⟩
def shlIn (a : BV) (b : Bool) : BV × Bool :=
  if a.len = 0 then (a, b) else (⟨a.len, (2 * a.val + b.toNat) % 2 ^ a.len⟩, a.bit (a.len - 1))
def shrIn (a : BV) (b : Bool) : BV × Bool :=
  if a.len = 0 then (a, b) else (⟨a.len, a.val / 2 + b.toNat * 2 ^ (a.len - 1)⟩, a.bit 0)

-- rotations (documented domain: `k ≤ len`) ----------------------------------------------------------
def rotl (a : BV) (k : Nat) : BV :=
  if a.len = 0 then a else ⟨a.len, (a.val <<< k) % 2 ^ a.len + a.val >>> (a.len - k)⟩
def rotr (a : BV) (k : Nat) : BV :=
  if a.len = 0 then a else ⟨a.len, a.val >>> k + (a.val % 2 ^ k) <<< (a.len - k)⟩

-- edits -----------------------------------------------------------------------------------------
def push (a : BV) (b : Bool) : BV := ⟨a.len + 1, a.val + b.toNat * 2 ^ a.len⟩
def pop (a : BV) : BV × Option Bool :=
  if a.len = 0 then (a, none) else (⟨a.len - 1, a.val % 2 ^ (a.len - 1)⟩, some (a.bit (a.len - 1)))
def set (a : BV) (i : Nat) (b : Bool) : BV :=
  ⟨a.len, a.val - (a.bit i).toNat * 2 ^ i + b.toNat * 2 ^ i⟩
def resize (a : BV) (m : Nat) (b : Bool) : BV :=
  if m ≤ a.len then ⟨m, a.val % 2 ^ m⟩
  else ⟨m, a.val + (if b then (2 ^ (m - a.len) - 1) * 2 ^ a.len else 0)⟩
def truncate (a : BV) (m : Nat) : BV := if m < a.len then resize a m false else a
def signExtend (a : BV) (m : Nat) : BV :=
  if m > a.len then resize a m (a.len > 0 && a.bit (a.len - 1)) else a
def append (a x : BV) : BV := ⟨a.len + x.len, a.val + x.val * 2 ^ a.len⟩
def prepend (a x : BV) : BV := ⟨a.len + x.len, x.val + a.val * 2 ^ x.len⟩
def copyRange (a : BV) (s e : Nat) : BV := ⟨e - s, (a.val >>> s) % 2 ^ (e - s)⟩
/-- `insert a i x`, `i ≤ a.len`. -/
def insert (a : BV) (i : Nat) (x : BV) : BV :=
  ⟨a.len + x.len, a.val % 2 ^ i + x.val * 2 ^ i + (a.val >>> i) * 2 ^ (i + x.len)⟩
/-- `split_off a i` : (what is left in `a`, what is returned). -/
def splitOff (a : BV) (i : Nat) : BV × BV := (⟨i, a.val % 2 ^ i⟩, copyRange a i a.len)
def first (a : BV) : Option Bool := if a.len = 0 then none else some (a.bit 0)
def last (a : BV) : Option Bool := if a.len = 0 then none else some (a.bit (a.len - 1))
def extend (a : BV) (bs : List Bool) : BV := bs.foldl push a

-- counts ----------------------------------------------------------------------------------------
/-- number of significant bits of a natural number: 0 for 0, else ⌊log2 v⌋+1 -/
def natBits (v : Nat) : Nat := if v = 0 then 0 else Nat.log2 v + 1
def sig (a : BV) : Nat := natBits a.val
def leadingZeros (a : BV) : Nat := a.len - sig a
def leadingOnes (a : BV) : Nat := leadingZeros (not a)
/-- number of trailing zero bits of `v`, capped at `n` (fuel `n`). -/
def natTz : Nat → Nat → Nat
  | 0, _ => 0
  | n + 1, v => if v % 2 = 1 then 0 else 1 + natTz n (v / 2)
def trailingZeros (a : BV) : Nat := natTz a.len a.val
def trailingOnes (a : BV) : Nat := trailingZeros (not a)
def isZero (a : BV) : Bool := a.val == 0

-- bytes -----------------------------------------------------------------------------------------
/-- little-endian bytes of `v`, exactly `k` of them. -/
def natBytesLE (v : Nat) : Nat → List Nat
  | 0 => []
  | k + 1 => (v % 256) :: natBytesLE (v / 256) k
def bytesLE (a : BV) : List Nat := natBytesLE a.val ((a.len + 7) / 8)
def toVec (a : BV) (big : Bool) : List Nat := if big then (bytesLE a).reverse else bytesLE a
def natOfBytesLE : List Nat → Nat
  | [] => 0
  | b :: bs => b + 256 * natOfBytesLE bs
def fromBytes (bytes : List Nat) (big : Bool) : BV :=
  ⟨8 * bytes.length, natOfBytesLE (if big then bytes.reverse else bytes)⟩

-- digits ----------------------------------------------------------------------------------------
def digitChar (upper : Bool) (d : Nat) : Char :=
  if d < 10 then Char.ofNat (48 + d) else Char.ofNat ((if upper then 55 else 87) + d)
/-- canonical numeral of `v` in `base` (most significant digit first; "0" for zero). -/
def numeralAux (base : Nat) (upper : Bool) : Nat → Nat → List Char → List Char
  | 0, _, acc => acc
  | fuel + 1, v, acc =>
    if v = 0 then acc else numeralAux base upper fuel (v / base) (digitChar upper (v % base) :: acc)
def numeral (base : Nat) (upper : Bool) (v : Nat) : List Char :=
  if v = 0 then ['0'] else numeralAux base upper (v + 1) v []

end BV
end Bva
