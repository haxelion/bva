import BvaProofs.Attr
import BvaProofs.L0
import BvaProofs.L0Count
import BvaProofs.L0Numeral
import BvaProofs.L0Bytes
import BvaProofs.ListView
import BvaProofs.Words
import BvaProofs.Bits
import BvaProofs.Val
import BvaProofs.Base
import BvaProofs.Digits
import BvaProofs.Rechunk
import BvaProofs.Operand
import BvaProofs.ChunkCopy
import BvaProofs.Edit
import BvaProofs.Slice
import BvaProofs.Splice
import BvaProofs.Bitop
import BvaProofs.Shift
import BvaProofs.Rot
import BvaProofs.Count
import BvaProofs.Cmp
import BvaProofs.Carry
import BvaProofs.Mul
import BvaProofs.Div
import BvaProofs.Dec
import BvaProofs.Conv
import BvaProofs.Bytes
import BvaProofs.Parse
import BvaProofs.Fmt
import BvaProofs.Hash
import BvaProofs.Iter
import BvaProofs.AutoGlue
import BvaProofs.Get
import BvaProofs.Refine
import BvaProofs.Api
import BvaProofs.Hist
import BvaProofs.GenWords
