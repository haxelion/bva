import BvaProofs.Api
/-!
# C06 — rotations permute bits cyclically and are mutually inverse
`Api.rotl v k` / `Api.rotr v k` model `rotl(k)` / `rotr(k)` (documented domain `k ≤ len`).
-/
namespace Bva

/-- L1 refines L0: the chunk-copy loop produces exactly `BV.rotl`, for every implementation. -/
theorem C06_rotl (v : Vec) (hv : v.Inv) (k : Nat) (hk : k ≤ v.len) :
    (Api.rotl v k).Inv ∧ (Api.rotl v k).abs = v.abs.rotl k :=
  let r := Api.rotl_refines v hv k hk; ⟨r.1, r.2.1⟩

theorem C06_rotr (v : Vec) (hv : v.Inv) (k : Nat) (hk : k ≤ v.len) :
    (Api.rotr v k).Inv ∧ (Api.rotr v k).abs = v.abs.rotr k :=
  let r := Api.rotr_refines v hv k hk; ⟨r.1, r.2.1⟩

/-- the bit at index `i` moves to `(i + k) mod n` under `rotl`; the length is unchanged;
an empty vector is unchanged. (Storage level, any implementation word width.) -/
theorem C06_rotl_moves_bits {w : Nat} (s : Raw w) (hw : 0 < w) (h : s.Inv) (k i : Nat) (hi : i < s.length) :
    bitAt (s.rotl k).data ((i + k) % s.length) = bitAt s.data i ∧ (s.rotl k).length = s.length :=
  ⟨Raw.rotl_bits s hw h k i hi, Raw.rotl_length s k⟩

/-- under `rotr` the bit at index `i` comes from `(i + k) mod n`, i.e. bit `j` moves to `(j - k) mod n` -/
theorem C06_rotr_moves_bits {w : Nat} (s : Raw w) (hw : 0 < w) (h : s.Inv) (k i : Nat) (hi : i < s.length) :
    bitAt (s.rotr k).data i = bitAt s.data ((i + k) % s.length) ∧ (s.rotr k).length = s.length :=
  ⟨Raw.rotr_bits s hw h k i hi, Raw.rotr_length s k⟩

/-- `rotl(k)` then `rotr(k)` is the identity, and vice versa -/
theorem C06_inverse (a : BV) (ha : a.WF) (k : Nat) (hk : k ≤ a.len) :
    BV.rotr (BV.rotl a k) k = a ∧ BV.rotl (BV.rotr a k) k = a :=
  ⟨BV.rotr_rotl a k ha hk, BV.rotl_rotr a k ha hk⟩

/-- `rotl(k)` equals `rotr(n - k)` -/
theorem C06_dual (a : BV) (ha : a.WF) (k : Nat) (hk : k ≤ a.len) : BV.rotl a k = BV.rotr a (a.len - k) :=
  BV.rotl_eq_rotr a k hk

/-- end-to-end on the model: rotate left then right gives back the same abstract vector -/
theorem C06_roundtrip (v : Vec) (hv : v.Inv) (k : Nat) (hk : k ≤ v.len) :
    (Api.rotr (Api.rotl v k) k).abs = v.abs := by
  have h1 := C06_rotl v hv k hk
  have hk' : k ≤ v.abs.len := Vec.abs_len v ▸ hk
  have hl : k ≤ (Api.rotl v k).len := by rw [← Vec.abs_len, h1.2, BV.rotl_len]; exact hk'
  rw [(C06_rotr _ h1.1 k hl).2, h1.2, BV.rotr_rotl v.abs k (Vec.abs_wf hv) hk']

end Bva
