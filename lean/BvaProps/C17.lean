import BvaProofs.Iter
import BvaProofs.Get
/-!
# C17 — bit iterators behave like a slice iterator over the bits

`Api.iterRun v rev calls` is the L1 model of `v.iter()` (or `v.iter().rev()`, `(&v).into_iter()`)
driven through any list of `next / next_back / nth n / nth_back n / size_hint / count / last`
with any `n : Nat`; `sliceRun rev bits calls` is `std::slice::Iter` over the list of bits.
-/
namespace Bva

/-- For every vector (any implementation, any word width), every call sequence and both directions,
the iterator returns exactly what the slice iterator over `bits` returns. -/
theorem C17_refines (v : Vec) (hw : v.WPos) (rev : Bool) (calls : List IterCall) :
    Api.iterRun v rev calls = sliceRun rev v.abs.bits calls := by
  unfold Api.iterRun IterSt.new
  rw [run_refines _ _ _ _ (Nat.zero_le _)]
  congr 1
  simp only [seg, BV.bits, Nat.sub_zero, List.range_eq_range']
  rw [Vec.abs_len]
  apply List.map_congr_left
  intro i _
  exact Api.get_eq_bit v hw i

/-- No `usize` computed by the iterator can overflow: after any call the range stays inside
`0 ..= len` (so `start + (n+1)` / `stop - (n+1)` are only evaluated when they stay in range). -/
theorem C17_no_overflow (get : Nat → Bool) (s : IterSt) (h : s.start ≤ s.stop) (c : IterCall) :
    (IterSt.step get s c).1.start ≤ (IterSt.step get s c).1.stop ∧
    (IterSt.step get s c).1.stop ≤ s.stop := by
  obtain ⟨h1, h2, _, _⟩ := step_refines get s h c
  exact ⟨h1, h2⟩

/-- Once exhausted, every further call keeps returning `None` / 0. -/
theorem C17_exhausted_stays (get : Nat → Bool) (n : Nat) (c : IterCall) :
    (IterSt.step get ⟨n, n⟩ c).1 = ⟨n, n⟩ ∧
    ((IterSt.step get ⟨n, n⟩ c).2 = .bit none ∨ (IterSt.step get ⟨n, n⟩ c).2 = .num 0) := by
  cases c <;> simp [IterSt.step]

/-- non-vacuity: a concrete 5-bit vector, a concrete call sequence -/
example : Api.iterRun (.f 8 ⟨#[0x15#8], 5⟩) false [.next, .nth 1, .nextBack, .nth (2^64 - 1), .next]
    = [.bit (some true), .bit (some true), .bit (some true), .bit none, .bit none] := by decide

end Bva
