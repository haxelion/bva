import BvaProofs.Parse
import BvaProofs.Api
import BvaProps.C14
/-!
# C15 — parsing accepts exactly binary/hex digit strings and inverts formatting

A string is a `List Char`.  `Parse.firstBad dig cs 0` is the index of the first character that is not a digit
(`none` if all are); `Parse.digitsVal base dig cs` is the positional value, first character most significant.
`Bvf.binVal` accepts exactly `'0'`,`'1'`; `Bvf.hexVal` is `char::to_digit(16)` (exactly `0-9a-fA-F`, `prs_hexVal_eq`).
-/
namespace Bva
open Parse

/-- `from_binary` for every implementation.  Fixed: a string longer than the capacity gives `NotEnoughCapacity`;
one that fits gives `InvalidFormat(i)` at the first offending character, or the vector of length `|s|`. The
dynamic and auto types (which pick inline/heap from the UTF-8 byte length) never report a capacity error. -/
theorem C15_from_binary (t : Ty) (cs : List Char) (ht : match t with | .f w _ => WOk w | _ => True) :
    (match t with | .f w N => N * w < cs.length → Api.fromBinary t cs = .err "NotEnoughCapacity" | _ => True) ∧
    ((match t with | .f w N => cs.length ≤ N * w | _ => True) →
      (∀ i, firstBad Bvf.binVal cs 0 = some i → Api.fromBinary t cs = .err s!"InvalidFormat({i})") ∧
      (firstBad Bvf.binVal cs 0 = none →
        ∃ r, Api.fromBinary t cs = .ok r ∧ r.Inv ∧ r.abs = ⟨cs.length, digitsVal 2 Bvf.binVal cs⟩ ∧ r.ty = t)) := by
  cases t with
  | f w N =>
    have s := Bvf.fromBinary_spec (w := w) ht.pos N cs
    exact ⟨fun h => congrArg (liftF _) (s.1 h),
      fun hc => ⟨fun i hi => congrArg (liftF _) (s.2.1 i hc hi), fun hn => liftF_ok ht (s.2.2 hc hn)⟩⟩
  | d =>
    have s := Bvd.fromBinary_spec cs
    refine ⟨trivial, fun _ => ⟨fun i hi => congrArg (Res.map Vec.d) (s.1 i hi), fun hn => ?_⟩⟩
    obtain ⟨r, e, hi, ha, _⟩ := s.2 hn
    exact mapD_ok ⟨r, e, hi, ha⟩
  | a =>
    have s := Bv.fromBinary_spec cs
    refine ⟨trivial, fun _ => ⟨fun i hi => congrArg liftA (s.2.1 i hi), fun hn => ?_⟩⟩
    obtain ⟨r, e, hi, ha, _⟩ := s.2.2 hn
    exact liftA_ok ⟨r, e, (div_BvInv_iff_invB r).mpr hi, ha⟩

theorem C15_from_hex (t : Ty) (cs : List Char) (ht : match t with | .f w _ => WOk w | _ => True) :
    (match t with | .f w N => N * w < cs.length * 4 → Api.fromHex t cs = .err "NotEnoughCapacity" | _ => True) ∧
    ((match t with | .f w N => cs.length * 4 ≤ N * w | _ => True) →
      (∀ i, firstBad Bvf.hexVal cs 0 = some i → Api.fromHex t cs = .err s!"InvalidFormat({i})") ∧
      (firstBad Bvf.hexVal cs 0 = none →
        ∃ r, Api.fromHex t cs = .ok r ∧ r.Inv ∧ r.abs = ⟨cs.length * 4, digitsVal 16 Bvf.hexVal cs⟩ ∧ r.ty = t)) := by
  cases t with
  | f w N =>
    have s := Bvf.fromHex_spec (w := w) ht.pos ht.four_dvd N cs
    exact ⟨fun h => congrArg (liftF _) (s.1 h),
      fun hc => ⟨fun i hi => congrArg (liftF _) (s.2.1 i hc hi), fun hn => liftF_ok ht (s.2.2 hc hn)⟩⟩
  | d =>
    have s := Bvd.fromHex_spec cs
    refine ⟨trivial, fun _ => ⟨fun i hi => congrArg (Res.map Vec.d) (s.1 i hi), fun hn => ?_⟩⟩
    obtain ⟨r, e, hi, ha, _⟩ := s.2 hn
    exact mapD_ok ⟨r, e, hi, ha⟩
  | a =>
    have s := Bv.fromHex_spec cs
    refine ⟨trivial, fun _ => ⟨fun i hi => congrArg liftA (s.2.1 i hi), fun hn => ?_⟩⟩
    obtain ⟨r, e, hi, ha, _⟩ := s.2.2 hn
    exact liftA_ok ⟨r, e, (div_BvInv_iff_invB r).mpr hi, ha⟩

/-- which strings are accepted: exactly those all of whose characters are digits; `firstBad` returns the index of the
first offending character (everything before it is a digit, the character at it is not) -/
theorem C15_accepts_exactly (dig : Char → Option Nat) (cs : List Char) :
    (firstBad dig cs 0 = none ↔ ∀ c, c ∈ cs → (dig c).isSome = true) ∧
    (∀ k, firstBad dig cs 0 = some k →
      k < cs.length ∧ (cs[k]?.bind dig) = none ∧ ∀ t, t < k → ∃ d, cs[t]?.bind dig = some d) := by
  refine ⟨firstBad_none_iff dig cs 0, fun k hk => ?_⟩
  obtain ⟨j, rfl, h⟩ := firstBad_some dig cs 0 k hk
  rw [Nat.zero_add]
  exact h

/-- the hex digit test is exactly ASCII `0-9a-fA-F` -/
theorem C15_hex_digits (c : Char) :
    Bvf.hexVal c =
      if '0' ≤ c ∧ c ≤ '9' then some (c.toNat - '0'.toNat)
      else if 'a' ≤ c ∧ c ≤ 'f' then some (c.toNat - 'a'.toNat + 10)
      else if 'A' ≤ c ∧ c ≤ 'F' then some (c.toNat - 'A'.toNat + 10)
      else none := prs_hexVal_eq c

/-- parsing the `{:b}`, `{:x}` or `{:X}` output of any vector yields a vector equal in value to it -/
theorem C15_roundtrip (v : Vec) (hv : v.Inv) :
    (∃ r, Api.fromBinary .d (Api.digits v 'b') = .ok r ∧ r.Inv ∧ r.abs.val = v.abs.val) ∧
    (∃ r, Api.fromHex .d (Api.digits v 'x') = .ok r ∧ r.Inv ∧ r.abs.val = v.abs.val) ∧
    (∃ r, Api.fromHex .a (Api.digits v 'X') = .ok r ∧ r.Inv ∧ r.abs.val = v.abs.val) := by
  obtain ⟨hb, -, hx, hX⟩ := C14_digits v hv
  have nb := digitsVal_numeral 2 false Bvf.binVal (by decide) (by decide) binVal_digitChar v.abs.val
  have nx := digitsVal_numeral 16 false Bvf.hexVal (by decide) (by decide) (hexVal_digitChar false) v.abs.val
  have nX := digitsVal_numeral 16 true Bvf.hexVal (by decide) (by decide) (hexVal_digitChar true) v.abs.val
  rw [hb, hx, hX]
  refine ⟨?_, ?_, ?_⟩
  · obtain ⟨r, e, hi, ha, _⟩ := ((C15_from_binary .d _ trivial).2 trivial).2 nb.1
    exact ⟨r, e, hi, ha ▸ nb.2⟩
  · obtain ⟨r, e, hi, ha, _⟩ := ((C15_from_hex .d _ trivial).2 trivial).2 nx.1
    exact ⟨r, e, hi, ha ▸ nx.2⟩
  · obtain ⟨r, e, hi, ha, _⟩ := ((C15_from_hex .a _ trivial).2 trivial).2 nX.1
    exact ⟨r, e, hi, ha ▸ nX.2⟩

end Bva
