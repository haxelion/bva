import BvaProps.C01
import BvaProps.C02
import BvaProps.C04
import BvaProps.C05
/-!
# C20 — all operator forms agree and borrowed operands are never modified

In the model every syntactic form of `+ - * / % & | ^` (owned/borrowed operands, compound assignment with an
owned or borrowed right-hand side) reaches ONE function per operator and implementation — that is what the
crate's delegation impls do, and the correspondence check executes all six forms side by side on the real code
(`h_forms`) to confirm that the delegation table is right.  Three operators have a *separately written* body for
a borrowed `Bvd` left operand (`!&v`, `&v << k`, `&v >> k`); for those the agreement of forms is a theorem here.
That a `&T` operand is not modified is guaranteed by the borrow checker unless `unsafe` code misbehaves (the crate's
only `unsafe` reads through `&self`); the model functions are pure, and the harness re-reads every operand after
every call — that clause is correspondence-tested, not proved.
-/
namespace Bva

/-- `!v` and `!&v` agree (same length, same bits), for every implementation -/
theorem C20_not_forms (v : Vec) (hv : v.Inv) :
    (Api.not v true).abs = (Api.not v false).abs ∧ (Api.not v true).Inv ∧ (Api.not v false).Inv := by
  have a := C04_not v hv true
  have b := C04_not v hv false
  exact ⟨a.2.trans b.2.symm, a.1, b.1⟩

/-- `v << k`, `&v << k`, `v <<= k` (and `>>`) agree for every amount of every integer type -/
theorem C20_shift_forms (v : Vec) (hv : v.Inv) (k : Nat) (hl : v.len < 2 ^ 64) :
    (Api.shl v k true).abs = (Api.shl v k false).abs ∧ (Api.shr v k true).abs = (Api.shr v k false).abs :=
  ⟨(C05_shl v hv k true hl).2.trans (C05_shl v hv k false hl).2.symm,
         (C05_shr v hv k true hl).2.trans (C05_shr v hv k false hl).2.symm⟩

/-- the form taking a native integer `x` directly agrees with the form taking any vector built from `x`
(a vector of any implementation whose value is `x`), for every operator -/
theorem C20_uint_vs_vector (v y : Vec) (W x : Nat) (hv : v.Inv) (hy : y.Inv) (hW : WOk W) (h128 : W ≤ 128)
    (hx : x < 2 ^ W) (hyx : y.abs = ⟨W, x⟩) (sub : Bool) (op : BitOp) :
    (Api.addsub sub v (.uint W x)).abs = (Api.addsub sub v (.vec y)).abs ∧
    (Api.mul v (.uint W x)).abs = (Api.mul v (.vec y)).abs ∧
    (Api.bitop op v (.uint W x)).abs = (Api.bitop op v (.vec y)).abs ∧
    (x ≠ 0 → ∃ q r q' r', Api.divRemOp v (.uint W x) = .ok (q, r) ∧ Api.divRemOp v (.vec y) = .ok (q', r') ∧
        q.abs = q'.abs ∧ r.abs = r'.abs) ∧
    (x = 0 → Api.divRemOp v (.uint W x) = .panic ∧ Api.divRemOp v (.vec y) = .panic) := by
  have hu : (Api.Rhs.uint W x).Inv := ⟨hW, h128, hx⟩
  have hvy : (Api.Rhs.vec y).Inv := hy
  have es : (Api.Rhs.uint W x).spec = (Api.Rhs.vec y).spec := hyx.symm
  refine ⟨(C01_bits_only sub v v _ _ hv hv hu hvy rfl es).1, (C01_bits_only sub v v _ _ hv hv hu hvy rfl es).2,
    C04_bits_only op v v _ _ hv hv hu hvy rfl es, fun hx0 => ?_, fun hx0 => ?_⟩
  · have h0 : (Api.Rhs.uint W x).spec.val ≠ 0 := hx0
    obtain ⟨q, r, e, _, _, aq, ar, _, _⟩ := (C02_operators v (.uint W x) hv hu).2 h0
    obtain ⟨q', r', e', _, _, aq', ar', _, _⟩ := (C02_operators v (.vec y) hv hvy).2 (es ▸ h0)
    exact ⟨q, r, q', r', e, e', by rw [aq, aq', es], by rw [ar, ar', es]⟩
  · have h0 : (Api.Rhs.uint W x).spec.val = 0 := hx0
    exact ⟨(C02_operators v (.uint W x) hv hu).1 h0, (C02_operators v (.vec y) hv hvy).1 (es ▸ h0)⟩

/-- results of the binary operators depend only on the abstractions of the operands, hence all forms — which can
differ only in which storage they reuse — produce the identical result (same length, same bits) -/
theorem C20_results_by_value_only (v v' : Vec) (x x' : Api.Rhs) (hv : v.Inv) (hv' : v'.Inv) (hx : x.Inv) (hx' : x'.Inv)
    (e1 : v.abs = v'.abs) (e2 : x.spec = x'.spec) (sub : Bool) (op : BitOp) :
    (Api.addsub sub v x).abs = (Api.addsub sub v' x').abs ∧ (Api.mul v x).abs = (Api.mul v' x').abs ∧
    (Api.bitop op v x).abs = (Api.bitop op v' x').abs :=
  ⟨(C01_bits_only sub v v' x x' hv hv' hx hx' e1 e2).1, (C01_bits_only sub v v' x x' hv hv' hx hx' e1 e2).2,
   C04_bits_only op v v' x x' hv hv' hx hx' e1 e2⟩

end Bva
