import BvaProofs.Refine
import BvaProofs.Hash
/-!
# C10 — equal vectors hash equally (Hash is consistent with Eq)

`Api.hashStream v` is the exact sequence of `Hasher::write_*` calls (bit width, value) that
`v.hash(&mut state)` performs (after repair D6: the number of significant bits, then the significant
words).  Equal write sequences give equal results for every `Hasher`; that last step is a property of
`Hasher` implementations and is outside the model (trusted base).
-/
namespace Bva

/-- the stream is a function of the value alone: it is the L0 `specHash` of the abstraction -/
theorem C10_stream_is_spec (v : Vec) (hv : v.Inv) :
    Api.hashStream v = specHash (match v with | .f w _ => w | _ => 64) v.abs := by
  cases v with
  | f w s => exact Bvf.hashStream_eq s hv.1.pos hv.2
  | d s => exact Bvd.hashStream_eq s hv
  | a b => exact Bv.hashStream_eq b (div_BvInv_raw hv.bvinv)

/-- Within each bit-vector type, values that compare equal (numerically equal — C09) feed identical data
to the hasher: different lengths, different `N`, spare capacity, and for `Bv` inline versus heap storage
make no difference. -/
theorem C10_hash (a b : Vec) (ha : a.Inv) (hb : b.Inv) (heq : a.abs.val = b.abs.val)
    (hty : match a, b with
      | .f w _, .f w' _ => w = w'
      | .d _, .d _ => True
      | .a _, .a _ => True
      | _, _ => False) :
    Api.hashStream a = Api.hashStream b := by
  rcases a with ⟨w, s⟩ | s | s <;> rcases b with ⟨w', t⟩ | t | t
  case f.f => cases (hty : w = w'); exact Bvf.hashStream_congr s t ha.1.pos ha.2 hb.2 heq
  case d.d => exact Bvd.hashStream_congr s t ha hb heq
  case a.a => exact Bv.hashStream_congr s t (div_BvInv_raw ha.bvinv) (div_BvInv_raw hb.bvinv) heq
  all_goals exact hty.elim

/-- the L0 stream depends on the value only, not on the length -/
theorem C10_spec_value_only (wWord : Nat) (a b : BV) (h : a.val = b.val) : specHash wWord a = specHash wWord b :=
  specHash_congr wWord h

/-- regression of defect D6: the *old* stream (length, then ceil(len/w) words) distinguished `zeros(3)` from `zeros(5)` -/
example : (64, 3) :: [(8, 0)] ≠ ((64, 5) :: [(8, 0)] : List (Nat × Nat)) := by decide
example : specHash 8 (BV.zeros 3) = specHash 8 (BV.zeros 5) := by decide

end Bva
