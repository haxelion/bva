import BvaProofs.ListView
import BvaProofs.L0Count
import BvaProofs.L0Numeral
import BvaProofs.L0Bytes
import Mathlib.Algebra.Group.Nat.Defs
/-!
# Laws of the L0 specification `BV`: closure under `WF`, the ring modulo `2^len`, division, the Boolean algebra, shifts,
rotations, the list structure of the edits, counts, bytes, numerals.  Most laws hold of ill-formed operands too: `WF` is assumed
where the proof uses it (and without need in `Law_xor_not`, `Law_rotl_eq_rotr`, `Law_rotr_eq_rotl`); a `Law_…_false` is a
concrete witness that a side condition cannot be dropped; `Law_aux_…` are helpers.
-/
namespace Bva

theorem Law_wf_add (a x : BV) : (a.add x).WF := BV.lv_mod_wf _ _
theorem Law_wf_sub (a x : BV) : (a.sub x).WF := BV.lv_mod_wf _ _
theorem Law_wf_mul (a x : BV) : (a.mul x).WF := BV.lv_mod_wf _ _
theorem Law_wf_div (a x : BV) (ha : a.WF) : (a.div x).WF := Nat.lt_of_le_of_lt (Nat.div_le_self _ _) ha
theorem Law_wf_rem (a x : BV) (ha : a.WF) : (a.rem x).WF := Nat.lt_of_le_of_lt (Nat.mod_le _ _) ha
theorem Law_wf_and (a x : BV) (ha : a.WF) : (a.and x).WF := BV.and_wf a x ha
theorem Law_wf_or (a x : BV) (ha : a.WF) : (a.or x).WF := BV.or_wf a x ha
theorem Law_wf_xor (a x : BV) (ha : a.WF) : (a.xor x).WF := BV.xor_wf a x ha
theorem Law_wf_not (a : BV) : a.not.WF := BV.not_wf a
theorem Law_wf_shl (a : BV) (k : Nat) : (a.shl k).WF := BV.shl_wf a k
theorem Law_wf_shr (a : BV) (k : Nat) (ha : a.WF) : (a.shr k).WF := BV.shr_wf a k ha
theorem Law_wf_shlIn (a : BV) (b : Bool) (ha : a.WF) : (a.shlIn b).1.WF := BV.shlIn_wf a b ha
theorem Law_wf_shrIn (a : BV) (b : Bool) (ha : a.WF) : (a.shrIn b).1.WF := BV.shrIn_wf a b ha
theorem Law_wf_rotl (a : BV) (k : Nat) (ha : a.WF) (hk : k ≤ a.len) : (a.rotl k).WF := BV.rotl_wf a k ha hk
theorem Law_wf_rotr (a : BV) (k : Nat) (ha : a.WF) (hk : k ≤ a.len) : (a.rotr k).WF := BV.rotr_wf a k ha hk
theorem Law_wf_push (a : BV) (b : Bool) (ha : a.WF) : (a.push b).WF := BV.push_wf a b ha
theorem Law_wf_pop (a : BV) (ha : a.WF) : a.pop.1.WF := BV.pop_wf a ha
theorem Law_wf_set (a : BV) (i : Nat) (b : Bool) (ha : a.WF) (hi : i < a.len) : (a.set i b).WF := BV.set_wf a i b ha hi
theorem Law_wf_resize (a : BV) (m : Nat) (b : Bool) (ha : a.WF) : (a.resize m b).WF := BV.resize_wf a m b ha
theorem Law_wf_truncate (a : BV) (m : Nat) (ha : a.WF) : (a.truncate m).WF := BV.truncate_wf a m ha
theorem Law_wf_signExtend (a : BV) (m : Nat) (ha : a.WF) : (a.signExtend m).WF := BV.signExtend_wf a m ha
theorem Law_wf_append (a x : BV) (ha : a.WF) (hx : x.WF) : (a.append x).WF := BV.append_wf a x ha hx
theorem Law_wf_prepend (a x : BV) (ha : a.WF) (hx : x.WF) : (a.prepend x).WF := BV.prepend_wf a x ha hx
theorem Law_wf_copyRange (a : BV) (s e : Nat) : (a.copyRange s e).WF := BV.lv_copyRange_wf a s e
theorem Law_wf_insert (a : BV) (i : Nat) (x : BV) (ha : a.WF) (hx : x.WF) (hi : i ≤ a.len) : (a.insert i x).WF :=
  BV.insert_wf a i x ha hx hi
theorem Law_wf_splitOff (a : BV) (i : Nat) : (a.splitOff i).1.WF ∧ (a.splitOff i).2.WF :=
  ⟨BV.splitOff_fst_wf a i, BV.lv_copyRange_wf a i a.len⟩
theorem Law_wf_extend (a : BV) (bs : List Bool) (ha : a.WF) : (a.extend bs).WF := BV.extend_wf a bs ha
theorem Law_wf_zeros (n : Nat) : (BV.zeros n).WF := BV.zeros_wf n
theorem Law_wf_ones (n : Nat) : (BV.ones n).WF := BV.ones_wf n
theorem Law_wf_repeat (b : Bool) (n : Nat) : (BV.repeat b n).WF := by
  cases b
  · exact Law_wf_zeros n
  · exact Law_wf_ones n
theorem Law_wf_trunc (n v : Nat) : (BV.trunc n v).WF := BV.lv_mod_wf _ _
theorem Law_wf_ofBits (l : List Bool) : (BV.ofBits l).WF := BV.ofBits_wf l
theorem Law_wf_fromBytes (bytes : List Nat) (big : Bool) (h : ∀ b ∈ bytes, b < 256) : (BV.fromBytes bytes big).WF := by
  cases big
  · exact BV.natOfBytesLE_lt bytes h
  · have := BV.natOfBytesLE_lt bytes.reverse (fun b hb => h b (List.mem_reverse.mp hb))
    rwa [List.length_reverse] at this

theorem Law_wf_and_false : ∃ a x : BV, x.WF ∧ ¬ (a.and x).WF := ⟨⟨0, 1⟩, ⟨1, 1⟩, by decide, by decide⟩

/-- a sum or product cut to `m` bits and then to `n ≤ m` bits is cut to `n` bits: what makes the mixed-length laws go through -/
theorem mod_two_pow_mod_two_pow_of_le (x : Nat) {n m : Nat} (h : n ≤ m) : x % 2 ^ m % 2 ^ n = x % 2 ^ n :=
  Nat.mod_mod_of_dvd x (Nat.pow_dvd_pow 2 h)

theorem Law_add_comm (a b : BV) (h : a.len = b.len) : a.add b = b.add a := by
  unfold BV.add; rw [h, Nat.add_comm]

/-- the middle operand must be at least as long as the left one (see `Law_add_assoc_false`) -/
theorem Law_add_assoc (a b c : BV) (h : a.len ≤ b.len) : (a.add b).add c = a.add (b.add c) := by
  unfold BV.add; congr 1
  rw [Nat.mod_add_mod, Nat.add_mod a.val, mod_two_pow_mod_two_pow_of_le _ h, ← Nat.add_mod, Nat.add_assoc]

/-- without `a.len ≤ b.len` associativity fails (the inner sum is cut to `b.len` bits first) -/
theorem Law_add_assoc_false : ∃ a b c : BV, a.WF ∧ b.WF ∧ c.WF ∧ (a.add b).add c ≠ a.add (b.add c) :=
  ⟨⟨2, 0⟩, ⟨0, 0⟩, ⟨2, 1⟩, by decide, by decide, by decide, by decide⟩

theorem Law_add_zero (a : BV) (k : Nat) (ha : a.WF) : a.add (BV.zeros k) = a :=
  congrArg (BV.mk a.len) (Nat.mod_eq_of_lt ha)

theorem Law_zero_add (a : BV) (ha : a.WF) : (BV.zeros a.len).add a = a :=
  (Law_add_comm (BV.zeros a.len) a rfl).trans (Law_add_zero a a.len ha)

/-- subtraction is addition of the complement to `2 ^ len`; the laws of `sub` are read off this form -/
theorem Law_aux_sub_eq_add (a x : BV) : a.sub x = a.add ⟨a.len, 2 ^ a.len - x.val % 2 ^ a.len⟩ := by
  unfold BV.sub BV.add
  rw [Nat.add_sub_assoc (Nat.le_of_lt (Nat.mod_lt _ (Nat.two_pow_pos _)))]

theorem Law_aux_neg_add (y P : Nat) (hP : 0 < P) : (y + (P - y % P)) % P = 0 := by
  rw [← Nat.mod_add_mod, Nat.add_sub_cancel' (Nat.le_of_lt (Nat.mod_lt y hP)), Nat.mod_self]

theorem Law_sub_self (a : BV) : a.sub a = BV.zeros a.len := by
  rw [Law_aux_sub_eq_add]; exact congrArg (BV.mk a.len) (Law_aux_neg_add _ _ (Nat.two_pow_pos _))

theorem Law_sub_zero (a : BV) (k : Nat) (ha : a.WF) : a.sub (BV.zeros k) = a :=
  congrArg (BV.mk a.len) ((Nat.add_mod_right _ _).trans (Nat.mod_eq_of_lt ha))

theorem Law_aux_add_neg_cancel (x y P : Nat) (hP : 0 < P) :
    ((x + y) % P + (P - y % P)) % P = x % P ∧ ((x + (P - y % P)) % P + y) % P = x % P := by
  have h := Law_aux_neg_add y P hP
  constructor
  · rw [Nat.mod_add_mod, Nat.add_assoc, Nat.add_mod, h, Nat.add_zero, Nat.mod_mod]
  · rw [Nat.mod_add_mod, Nat.add_assoc, Nat.add_comm _ y, Nat.add_mod, h, Nat.add_zero, Nat.mod_mod]

theorem Law_add_sub_cancel (a b : BV) (ha : a.WF) : (a.add b).sub b = a := by
  rw [Law_aux_sub_eq_add]
  exact congrArg (BV.mk a.len) (((Law_aux_add_neg_cancel _ _ _ (Nat.two_pow_pos _)).1).trans (Nat.mod_eq_of_lt ha))

theorem Law_sub_add_cancel (a b : BV) (ha : a.WF) : (a.sub b).add b = a := by
  rw [Law_aux_sub_eq_add]
  exact congrArg (BV.mk a.len) (((Law_aux_add_neg_cancel _ _ _ (Nat.two_pow_pos _)).2).trans (Nat.mod_eq_of_lt ha))

theorem Law_add_val_of_lt (a b : BV) (h : a.val + b.val < 2 ^ a.len) : (a.add b).val = a.val + b.val :=
  Nat.mod_eq_of_lt h

theorem Law_sub_val_of_le (a b : BV) (ha : a.WF) (h : b.val ≤ a.val) : (a.sub b).val = a.val - b.val :=
  congrArg BV.val (BV.sub_of_le a b ha h)

theorem Law_mul_comm (a b : BV) (h : a.len = b.len) : a.mul b = b.mul a := by
  unfold BV.mul; rw [h, Nat.mul_comm]

theorem Law_mul_assoc (a b c : BV) (h : a.len ≤ b.len) : (a.mul b).mul c = a.mul (b.mul c) := by
  unfold BV.mul; congr 1
  rw [Nat.mod_mul_mod, Nat.mul_mod a.val, mod_two_pow_mod_two_pow_of_le _ h, ← Nat.mul_mod, Nat.mul_assoc]

theorem Law_mul_assoc_false : ∃ a b c : BV, a.WF ∧ b.WF ∧ c.WF ∧ (a.mul b).mul c ≠ a.mul (b.mul c) :=
  ⟨⟨2, 1⟩, ⟨1, 1⟩, ⟨2, 3⟩, by decide, by decide, by decide, by decide⟩

/-- `k` is arbitrary: also the (ill-formed) `⟨0, 1⟩` is a right unit, because only the value of the operand is used -/
theorem Law_mul_one (a : BV) (k : Nat) (ha : a.WF) : a.mul ⟨k, 1⟩ = a :=
  congrArg (BV.mk a.len) ((congrArg (· % _) (Nat.mul_one _)).trans (Nat.mod_eq_of_lt ha))

theorem Law_one_mul (a : BV) (ha : a.WF) : (BV.mk a.len 1).mul a = a :=
  (Law_mul_comm ⟨a.len, 1⟩ a rfl).trans (Law_mul_one a a.len ha)

theorem Law_mul_zero (a : BV) (k : Nat) : a.mul (BV.zeros k) = BV.zeros a.len :=
  congrArg (BV.mk a.len) (Nat.zero_mod _)

theorem Law_mul_distrib (a b c : BV) (h : a.len ≤ b.len) : a.mul (b.add c) = (a.mul b).add (a.mul c) := by
  unfold BV.mul BV.add; congr 1
  rw [← Nat.add_mod, ← Nat.mul_add, Nat.mul_mod a.val, mod_two_pow_mod_two_pow_of_le _ h, ← Nat.mul_mod]

theorem Law_mul_distrib_right (a b c : BV) (h : a.len ≤ b.len) : (a.add b).mul c = (a.mul c).add (b.mul c) := by
  unfold BV.mul BV.add; congr 1
  rw [Nat.add_mod (a.val * c.val % 2 ^ a.len), mod_two_pow_mod_two_pow_of_le _ h, Nat.mod_mod, ← Nat.add_mod, ← Nat.add_mul,
    Nat.mod_mul_mod]

/-- two's complement: `0 - a = !a + 1` (also for the empty vector) -/
theorem Law_neg (a : BV) (ha : a.WF) : (BV.zeros a.len).sub a = a.not.add ⟨a.len, 1⟩ := by
  rw [Law_aux_sub_eq_add]
  unfold BV.add BV.not BV.zeros
  rw [Nat.mod_eq_of_lt ha, Nat.zero_add, Nat.sub_right_comm, Nat.sub_add_cancel (Nat.sub_pos_of_lt ha)]

theorem Law_sub_eq_add_neg (a b : BV) (h : a.len = b.len) :
    a.sub b = a.add ((BV.zeros b.len).sub b) := by
  rw [Law_aux_sub_eq_add, Law_aux_sub_eq_add (BV.zeros b.len)]
  unfold BV.add BV.zeros
  rw [Nat.zero_add, h, Nat.add_mod_mod]

theorem Law_only_low_bits_add (a x y : BV) (h : x.val % 2 ^ a.len = y.val % 2 ^ a.len) : a.add x = a.add y := by
  unfold BV.add; congr 1
  rw [← Nat.add_mod_mod, h, Nat.add_mod_mod]

theorem Law_only_low_bits_sub (a x y : BV) (h : x.val % 2 ^ a.len = y.val % 2 ^ a.len) : a.sub x = a.sub y := by
  unfold BV.sub; rw [h]

theorem Law_only_low_bits_mul (a x y : BV) (h : x.val % 2 ^ a.len = y.val % 2 ^ a.len) : a.mul x = a.mul y := by
  unfold BV.mul; congr 1
  rw [← Nat.mul_mod_mod, h, Nat.mul_mod_mod]

theorem Law_only_low_bits_or (a x y : BV) (h : x.val % 2 ^ a.len = y.val % 2 ^ a.len) : a.or x = a.or y := by
  unfold BV.or; rw [h]

theorem Law_only_low_bits_xor (a x y : BV) (h : x.val % 2 ^ a.len = y.val % 2 ^ a.len) : a.xor x = a.xor y := by
  unfold BV.xor; rw [h]

/-- for `and` the left operand has to be well-formed (see `Law_only_low_bits_and_false`) -/
theorem Law_only_low_bits_and (a x y : BV) (ha : a.WF) (h : x.val % 2 ^ a.len = y.val % 2 ^ a.len) :
    a.and x = a.and y :=
  BV.ext_of_wf (Law_wf_and a x ha) (Law_wf_and a y ha) rfl fun i (hi : i < a.len) => by
    have e : x.bit i = y.bit i := by
      have e := congrArg (Nat.testBit · i) h
      rwa [Nat.testBit_mod_two_pow, Nat.testBit_mod_two_pow, decide_eq_true hi, Bool.true_and, Bool.true_and] at e
    rw [BV.and_bit, BV.and_bit, e]

theorem Law_only_low_bits_and_false : ∃ a x y : BV, x.val % 2 ^ a.len = y.val % 2 ^ a.len ∧ a.and x ≠ a.and y :=
  ⟨⟨0, 1⟩, ⟨0, 1⟩, ⟨0, 0⟩, by decide, by decide⟩

theorem Law_resize_low (x : BV) (n : Nat) (hx : x.WF) : (x.resize n false).val = x.val % 2 ^ n := by
  unfold BV.resize
  by_cases h : n ≤ x.len
  · rw [if_pos h]
  · rw [if_neg h]; exact (Nat.mod_eq_of_lt (lt_two_pow_of_le hx (Nat.le_of_not_le h))).symm

theorem Law_add_resize (a x : BV) (hx : x.WF) : a.add x = a.add (x.resize a.len false) :=
  Law_only_low_bits_add a x _ (by rw [Law_resize_low x a.len hx, Nat.mod_mod])

theorem Law_div_rem (a x : BV) (hx : x.val ≠ 0) :
    (a.div x).val * x.val + (a.rem x).val = a.val ∧ (a.rem x).val < x.val :=
  ⟨Nat.div_add_mod' _ _, Nat.mod_lt _ (Nat.pos_of_ne_zero hx)⟩

theorem Law_div_rem_unique (a x : BV) (q r : Nat) (h : q * x.val + r = a.val) (hr : r < x.val) :
    a.div x = ⟨a.len, q⟩ ∧ a.rem x = ⟨a.len, r⟩ := by
  unfold BV.div BV.rem
  rw [← h, Nat.add_comm, Nat.mul_comm, Nat.add_mul_div_left _ _ (Nat.zero_lt_of_lt hr), Nat.add_mul_mod_self_left,
    Nat.div_eq_of_lt hr, Nat.mod_eq_of_lt hr, Nat.zero_add]
  exact ⟨rfl, rfl⟩

theorem Law_div_one (a : BV) (k : Nat) : a.div ⟨k, 1⟩ = a ∧ a.rem ⟨k, 1⟩ = BV.zeros a.len :=
  ⟨congrArg (BV.mk a.len) (Nat.div_one _), congrArg (BV.mk a.len) (Nat.mod_one _)⟩

theorem Law_div_self (a : BV) (h : a.val ≠ 0) : a.div a = ⟨a.len, 1⟩ ∧ a.rem a = BV.zeros a.len :=
  ⟨congrArg (BV.mk a.len) (Nat.div_self (Nat.pos_of_ne_zero h)), congrArg (BV.mk a.len) (Nat.mod_self _)⟩

theorem Law_div_of_lt (a x : BV) (h : a.val < x.val) : a.div x = BV.zeros a.len ∧ a.rem x = a :=
  ⟨congrArg (BV.mk a.len) (Nat.div_eq_of_lt h), congrArg (BV.mk a.len) (Nat.mod_eq_of_lt h)⟩

theorem Law_and_comm (a b : BV) (h : a.len = b.len) : a.and b = b.and a := by
  unfold BV.and; rw [h, Nat.and_comm]

/-- `or`, `xor` cut the right operand to `a.len` bits but keep the left one: commutativity needs well-formedness -/
theorem Law_or_comm (a b : BV) (ha : a.WF) (hb : b.WF) (h : a.len = b.len) : a.or b = b.or a := by
  unfold BV.or
  rw [← h, Nat.mod_eq_of_lt ha, Nat.mod_eq_of_lt (h ▸ hb), Nat.or_comm]

theorem Law_xor_comm (a b : BV) (ha : a.WF) (hb : b.WF) (h : a.len = b.len) : a.xor b = b.xor a := by
  unfold BV.xor
  rw [← h, Nat.mod_eq_of_lt ha, Nat.mod_eq_of_lt (h ▸ hb), Nat.xor_comm]

theorem Law_or_comm_false : ∃ a b : BV, a.len = b.len ∧ b.WF ∧ a.or b ≠ b.or a :=
  ⟨⟨0, 1⟩, ⟨0, 0⟩, rfl, by decide, by decide⟩

theorem Law_and_assoc (a b c : BV) : (a.and b).and c = a.and (b.and c) :=
  congrArg (BV.mk a.len) (Nat.and_assoc ..)

theorem Law_or_assoc (a b c : BV) (h : a.len ≤ b.len) : (a.or b).or c = a.or (b.or c) :=
  BV.ext_bits rfl fun i => by
    simp only [bv_bit]
    by_cases h1 : i < a.len
    · simp only [h1, Nat.lt_of_lt_of_le h1 h, decide_true, Bool.true_and, Bool.or_assoc]
    · simp only [h1, decide_false, Bool.false_and, Bool.or_false]

theorem Law_xor_assoc (a b c : BV) (h : a.len ≤ b.len) : (a.xor b).xor c = a.xor (b.xor c) :=
  BV.ext_bits rfl fun i => by
    simp only [bv_bit]
    by_cases h1 : i < a.len
    · simp only [h1, Nat.lt_of_lt_of_le h1 h, decide_true, Bool.true_and, Bool.xor_assoc]
    · simp only [h1, decide_false, Bool.false_and, Bool.xor_false]

theorem Law_and_self (a : BV) : a.and a = a := congrArg (BV.mk a.len) (Nat.and_self _)

theorem Law_or_self (a : BV) : a.or a = a :=
  BV.ext_bits rfl fun i => by
    rw [BV.or_bit]; cases a.bit i <;> simp only [Bool.and_false, Bool.and_true, Bool.or_self, Bool.true_or]

theorem Law_xor_self (a : BV) (ha : a.WF) : a.xor a = BV.zeros a.len := by
  unfold BV.xor BV.zeros; rw [Nat.mod_eq_of_lt ha, Nat.xor_self]

theorem Law_xor_self_false : ∃ a : BV, a.xor a ≠ BV.zeros a.len := ⟨⟨0, 1⟩, by decide⟩

theorem Law_not_not (a : BV) (ha : a.WF) : a.not.not = a :=
  BV.ext_of_wf (Law_wf_not _) ha rfl fun i (hi : i < a.len) => by
    simp only [bv_bit, ha, Law_wf_not, hi, decide_true, Bool.true_and, Bool.not_not]

theorem Law_not_not_false : ∃ a : BV, a.not.not ≠ a := ⟨⟨0, 1⟩, by decide⟩

theorem Law_not_and (a b : BV) (ha : a.WF) (hb : b.WF) (h : a.len ≤ b.len) : (a.and b).not = a.not.or b.not :=
  BV.ext_of_wf (Law_wf_not _) (Law_wf_or _ _ (Law_wf_not _)) rfl fun i (hi : i < a.len) => by
    simp only [bv_bit, ha, hb, Law_wf_and, hi, Nat.lt_of_lt_of_le hi h, decide_true, Bool.true_and, Bool.not_and]

theorem Law_not_or (a b : BV) (ha : a.WF) (hb : b.WF) (h : a.len ≤ b.len) : (a.or b).not = a.not.and b.not :=
  BV.ext_of_wf (Law_wf_not _) (Law_wf_and _ _ (Law_wf_not _)) rfl fun i (hi : i < a.len) => by
    simp only [bv_bit, ha, hb, Law_wf_or, hi, Nat.lt_of_lt_of_le hi h, decide_true, Bool.true_and, Bool.not_or]

theorem Law_not_and_false : ∃ a b : BV, a.WF ∧ a.len = b.len ∧ (a.and b).not ≠ a.not.or b.not :=
  ⟨⟨1, 1⟩, ⟨1, 2⟩, by decide, rfl, by decide⟩

theorem Law_xor_ones (a : BV) (ha : a.WF) : a.xor (BV.ones a.len) = a.not :=
  BV.ext_of_wf (Law_wf_xor _ _ ha) (Law_wf_not _) rfl fun i (hi : i < a.len) => by
    simp only [bv_bit, ha, hi, decide_true, Bool.true_and, Bool.xor_true]

theorem Law_xor_not (a b : BV) (ha : a.WF) (hb : b.WF) (h : a.len = b.len) : (a.xor b).not = a.not.xor b :=
  BV.ext_of_wf (Law_wf_not _) (Law_wf_xor _ _ (Law_wf_not _)) rfl fun i (hi : i < a.len) => by
    simp only [bv_bit, ha, Law_wf_xor, hi, decide_true, Bool.true_and, Bool.not_xor]

theorem Law_and_ones (a : BV) (k : Nat) (ha : a.WF) (hk : a.len ≤ k) : a.and (BV.ones k) = a :=
  BV.ext_of_wf (Law_wf_and _ _ ha) ha rfl fun i (hi : i < a.len) => by
    simp only [bv_bit, Nat.lt_of_lt_of_le hi hk, decide_true, Bool.and_true]

theorem Law_and_zeros (a : BV) (k : Nat) : a.and (BV.zeros k) = BV.zeros a.len :=
  congrArg (BV.mk a.len) (Nat.and_zero _)

theorem Law_or_zeros (a : BV) (k : Nat) : a.or (BV.zeros k) = a :=
  congrArg (BV.mk a.len) ((congrArg (a.val ||| ·) (Nat.zero_mod _)).trans (Nat.or_zero _))

theorem Law_xor_zeros (a : BV) (k : Nat) : a.xor (BV.zeros k) = a :=
  congrArg (BV.mk a.len) ((congrArg (a.val ^^^ ·) (Nat.zero_mod _)).trans (Nat.xor_zero _))

theorem Law_or_ones (a : BV) (ha : a.WF) : a.or (BV.ones a.len) = BV.ones a.len :=
  BV.ext_of_wf (Law_wf_or _ _ ha) (Law_wf_ones _) rfl fun i (hi : i < a.len) => by
    simp only [bv_bit, hi, decide_true, Bool.true_and, Bool.or_true]

theorem Law_and_not_self (a : BV) (ha : a.WF) : a.and a.not = BV.zeros a.len :=
  BV.ext_bits rfl fun i => by
    rw [BV.and_bit, BV.not_bit _ ha, BV.zeros_bit]
    cases a.bit i <;> simp only [Bool.not_false, Bool.not_true, Bool.and_true, Bool.and_false, Bool.false_and]

theorem Law_or_not_self (a : BV) (ha : a.WF) : a.or a.not = BV.ones a.len :=
  BV.ext_of_wf (Law_wf_or _ _ ha) (Law_wf_ones _) rfl fun i (hi : i < a.len) => by
    simp only [bv_bit, ha, hi, decide_true, Bool.true_and, Bool.or_not_self]

theorem Law_xor_not_self (a : BV) (ha : a.WF) : a.xor a.not = BV.ones a.len :=
  BV.ext_of_wf (Law_wf_xor _ _ ha) (Law_wf_ones _) rfl fun i (hi : i < a.len) => by
    simp only [bv_bit, ha, hi, decide_true, Bool.true_and, Bool.xor_not_self]

theorem Law_and_or_distrib (a b c : BV) (h : a.len ≤ b.len) (ha : a.WF) :
    a.and (b.or c) = (a.and b).or (a.and c) :=
  BV.ext_of_wf (Law_wf_and _ _ ha) (Law_wf_or _ _ (Law_wf_and _ _ ha)) rfl fun i (hi : i < a.len) => by
    simp only [bv_bit, hi, Nat.lt_of_lt_of_le hi h, decide_true, Bool.true_and, Bool.and_or_distrib_left]

theorem Law_or_and_absorb (a b : BV) : a.or (a.and b) = a :=
  BV.ext_bits rfl fun i => by
    rw [BV.or_bit, BV.and_bit]
    cases a.bit i <;> simp only [Bool.false_and, Bool.and_false, Bool.or_self, Bool.true_and, Bool.true_or]

theorem Law_shl_mul (a : BV) (k : Nat) : (a.shl k).val = (a.val * 2 ^ k) % 2 ^ a.len :=
  congrArg BV.val (BV.shl_eq a k)

theorem Law_shr_div (a : BV) (k : Nat) (ha : a.WF) : (a.shr k).val = a.val / 2 ^ k :=
  congrArg BV.val (BV.shr_eq a k ha)

theorem Law_shl_val_mul (a : BV) (k : Nat) : a.shl k = a.mul ⟨a.len, 2 ^ k⟩ := BV.shl_eq a k

-- shifts in one direction compose on the value; where the directions mix, the two sides are compared bit by bit
theorem Law_shl_shl (a : BV) (j k : Nat) : (a.shl j).shl k = a.shl (j + k) := by
  rw [BV.shl_eq (a.shl j), BV.shl_eq a j, BV.shl_eq a (j + k)]
  rw [Nat.mod_mul_mod, Nat.mul_assoc, ← Nat.pow_add]

theorem Law_shr_shr (a : BV) (j k : Nat) (ha : a.WF) : (a.shr j).shr k = a.shr (j + k) := by
  rw [BV.shr_eq _ k (Law_wf_shr a j ha), BV.shr_eq a j ha, BV.shr_eq a (j + k) ha]
  rw [Nat.div_div_eq_div_mul, ← Nat.pow_add]

theorem Law_shl_zero (a : BV) (ha : a.WF) : a.shl 0 = a := by
  rw [BV.shl_eq, Nat.pow_zero, Nat.mul_one, Nat.mod_eq_of_lt ha]

theorem Law_shr_zero (a : BV) (ha : a.WF) : a.shr 0 = a := by
  rw [BV.shr_eq a 0 ha, Nat.pow_zero, Nat.div_one]

theorem Law_shl_shr (a : BV) (k : Nat) : (a.shl k).shr k = ⟨a.len, a.val % 2 ^ (a.len - k)⟩ :=
  BV.ext_bits (by simp only [bv_bit]) fun i => by
    simp only [BV.shr_bit _ (Law_wf_shl a k), bv_bit, Nat.add_sub_cancel, ← Bool.and_assoc, ← Bool.decide_and]
    have g : (i + k < a.len ∧ k ≤ i + k ∧ i + k < a.len) ↔ i < a.len - k :=
      ⟨fun h => Nat.lt_sub_of_add_lt h.1, fun h => ⟨Nat.add_lt_of_lt_sub h, Nat.le_add_left .., Nat.add_lt_of_lt_sub h⟩⟩
    exact gate_congr g fun _ => rfl

/-- shifting down then up clears the low `k` bits -/
theorem Law_shr_shl (a : BV) (k : Nat) (ha : a.WF) : (a.shr k).shl k = a.and ((BV.ones a.len).shl k) :=
  BV.ext_bits (by simp only [bv_bit]) fun i => by
    simp only [bv_bit, ha, Bool.and_comm (a.bit i), Bool.and_assoc]
    exact gate_congr Iff.rfl fun h => by
      simp only [Nat.sub_add_cancel h.1, h.2, decide_true, Nat.lt_of_le_of_lt (Nat.sub_le i k) h.2, Bool.true_and]

theorem Law_shlIn_fst (a : BV) (b : Bool) (ha : a.WF) : (a.shlIn b).1 = (a.shl 1).or ⟨a.len, b.toNat⟩ :=
  BV.ext_of_wf (Law_wf_shlIn a b ha) (Law_wf_or _ _ (Law_wf_shl a 1)) (by simp only [bv_bit]) fun i hi => by
    rw [BV.shlIn_len] at hi
    simp only [bv_bit, ha, hi, decide_true, Bool.true_and, and_true]
    by_cases h0 : i = 0
    · rw [if_pos h0, h0, decide_eq_false (Nat.not_succ_le_zero 0), decide_eq_true rfl]; rfl
    · rw [if_neg h0, decide_eq_true (Nat.one_le_iff_ne_zero.mpr h0), decide_eq_false h0, Bool.true_and, Bool.false_and,
        Bool.or_false]

theorem Law_shlIn (a : BV) (b : Bool) (ha : a.WF) (hl : 0 < a.len) :
    (a.shlIn b).1 = (a.shl 1).or ⟨a.len, b.toNat⟩ ∧ (a.shlIn b).2 = a.bit (a.len - 1) :=
  ⟨Law_shlIn_fst a b ha, by rw [BV.shlIn_snd, if_neg (Nat.ne_of_gt hl)]⟩

theorem Law_shrIn_fst (a : BV) (b : Bool) (ha : a.WF) :
    (a.shrIn b).1 = (a.shr 1).or ⟨a.len, b.toNat * 2 ^ (a.len - 1)⟩ :=
  BV.ext_of_wf (Law_wf_shrIn a b ha) (Law_wf_or _ _ (Law_wf_shr a 1 ha)) (by simp only [bv_bit]) fun i hi => by
    rw [BV.shrIn_len] at hi
    simp only [bv_bit, ha, hi, decide_true, Bool.true_and]
    by_cases h1 : i + 1 = a.len
    · rw [if_pos h1, ← h1, Nat.add_sub_cancel, decide_eq_false (Nat.lt_irrefl _), decide_eq_true rfl]; rfl
    · have h2 : ¬ i = a.len - 1 := fun e => h1 (e ▸ Nat.sub_add_cancel (Nat.zero_lt_of_lt hi))
      rw [if_neg h1, decide_eq_true (Nat.lt_of_le_of_ne hi h1), decide_eq_false h2, Bool.true_and, Bool.false_and,
        Bool.or_false]

theorem Law_shrIn (a : BV) (b : Bool) (ha : a.WF) (hl : 0 < a.len) :
    (a.shrIn b).1 = (a.shr 1).or ⟨a.len, b.toNat * 2 ^ (a.len - 1)⟩ ∧ (a.shrIn b).2 = a.bit 0 :=
  ⟨Law_shrIn_fst a b ha, by rw [BV.shrIn_snd, if_neg (Nat.ne_of_gt hl)]⟩

/-- the bit shifted out on one side can be shifted back in on the other -/
theorem Law_shlIn_shrIn (a : BV) (b : Bool) (ha : a.WF) (hl : 0 < a.len) :
    ((a.shlIn b).1.shrIn (a.shlIn b).2).1 = a ∧ ((a.shlIn b).1.shrIn (a.shlIn b).2).2 = b := by
  have hw := Law_wf_shlIn a b ha
  have hn : ¬ a.len = 0 := Nat.ne_of_gt hl
  constructor
  · refine BV.ext_of_wf (Law_wf_shrIn _ _ hw) ha (by simp only [bv_bit]) fun i hi => ?_
    simp only [bv_bit] at hi
    simp only [bv_bit, ha, hw, BV.shlIn_snd, if_neg hn, hi, decide_true, Bool.true_and, Nat.add_sub_cancel]
    by_cases h : i + 1 = a.len
    · rw [if_pos h, ← h, Nat.add_sub_cancel]
    · rw [if_neg h, if_neg (Nat.succ_ne_zero i), decide_eq_true (Nat.lt_of_le_of_ne hi h), Bool.true_and]
  · rw [BV.shrIn_snd, BV.shlIn_len, if_neg hn, BV.shlIn_bit a ha, decide_eq_true hl, if_pos rfl]; rfl

theorem Law_aux_rotr_empty (a : BV) (hl : a.len = 0) (t : Nat) : a.rotr t = a := by
  unfold BV.rotr; rw [if_pos hl]

theorem Law_rotl_zero (a : BV) (ha : a.WF) : a.rotl 0 = a :=
  (BV.isRot_rotl a 0 ha (Nat.zero_le _)).eq (.refl a ha) (by rw [Nat.sub_zero, Nat.mod_self, Nat.zero_mod])

theorem Law_rotl_len (a : BV) (ha : a.WF) : a.rotl a.len = a :=
  (BV.isRot_rotl a _ ha (Nat.le_refl _)).eq (.refl a ha) (by rw [Nat.sub_self])

/-- rotation amounts add modulo the length -/
theorem Law_aux_rotl_rotl (a : BV) (j k t : Nat) (ha : a.WF) (hj : j ≤ a.len) (hk : k ≤ a.len) (ht : t ≤ a.len)
    (h : j + k = t ∨ j + k = t + a.len) : (a.rotl j).rotl k = a.rotl t := by
  refine ((BV.isRot_rotl a j ha hj).rotl k hk).eq (BV.isRot_rotl a t ha ht) ?_
  -- `e` relates the two amounts without subtraction; `h` then says what to cancel
  have e : (a.len - j + (a.len - k)) + (j + k) = (a.len - t) + t + a.len := by
    rw [Nat.add_add_add_comm, Nat.sub_add_cancel hj, Nat.sub_add_cancel hk, Nat.sub_add_cancel ht]
  rcases h with h | h
  · rw [h, Nat.add_right_comm _ t] at e
    rw [Nat.add_right_cancel e, Nat.add_mod_right]
  · rw [h, ← Nat.add_assoc] at e
    rw [Nat.add_right_cancel (Nat.add_right_cancel e)]

theorem Law_rotl_add (a : BV) (j k : Nat) (ha : a.WF) (h : j + k ≤ a.len) : (a.rotl j).rotl k = a.rotl (j + k) :=
  Law_aux_rotl_rotl a j k _ ha (Nat.le_of_add_right_le h) (Nat.le_of_add_left_le h) h (Or.inl rfl)

theorem Law_rotl_add_wrap (a : BV) (j k : Nat) (ha : a.WF) (hj : j ≤ a.len) (hk : k ≤ a.len) (h : a.len ≤ j + k) :
    (a.rotl j).rotl k = a.rotl (j + k - a.len) :=
  Law_aux_rotl_rotl a j k _ ha hj hk (Nat.sub_le_iff_le_add.mpr (Nat.add_le_add hj hk))
    (Or.inr (Nat.sub_add_cancel h).symm)

theorem Law_rotl_rotr (a : BV) (k : Nat) (ha : a.WF) (hk : k ≤ a.len) :
    (a.rotl k).rotr k = a ∧ (a.rotr k).rotl k = a :=
  ⟨BV.rotr_rotl a k ha hk, BV.rotl_rotr a k ha hk⟩

theorem Law_rotl_eq_rotr (a : BV) (k : Nat) (ha : a.WF) (hk : k ≤ a.len) : a.rotl k = a.rotr (a.len - k) :=
  BV.rotl_eq_rotr a k hk

theorem Law_rotr_eq_rotl (a : BV) (k : Nat) (ha : a.WF) (hk : k ≤ a.len) : a.rotr k = a.rotl (a.len - k) := by
  rw [BV.rotl_eq_rotr a _ (Nat.sub_le ..), Nat.sub_sub_self hk]

theorem Law_rotr_zero (a : BV) (ha : a.WF) : a.rotr 0 = a :=
  (BV.isRot_rotr a 0 ha (Nat.zero_le _)).eq (.refl a ha) rfl

theorem Law_rotr_len (a : BV) (ha : a.WF) : a.rotr a.len = a :=
  (BV.isRot_rotr a _ ha (Nat.le_refl _)).eq (.refl a ha) (by rw [Nat.mod_self, Nat.zero_mod])

theorem Law_rotr_add (a : BV) (j k : Nat) (ha : a.WF) (h : j + k ≤ a.len) : (a.rotr j).rotr k = a.rotr (j + k) :=
  ((BV.isRot_rotr a j ha (Nat.le_of_add_right_le h)).rotr k (Nat.le_of_add_left_le h)).eq (BV.isRot_rotr a (j + k) ha h) rfl

theorem Law_rotl_shl_shr (a : BV) (k : Nat) (ha : a.WF) (hk : k ≤ a.len) :
    a.rotl k = (a.shl k).or (a.shr (a.len - k)) :=
  BV.ext_bits (by simp only [bv_bit]) fun i => by
    -- the shifted-down part supplies the bits below `k`, the shifted-up part the others
    have e : i + (a.len - k) < a.len ↔ i < k := by rw [← Nat.lt_sub_iff_add_lt, Nat.sub_sub_self hk]
    simp only [BV.rotl_bit a k i ha hk, bv_bit, ha, e]
    by_cases h1 : i < k
    · simp only [h1, if_true, Nat.not_le_of_lt h1, false_and, decide_false, Bool.false_and, Bool.false_or,
        Nat.lt_of_lt_of_le h1 hk, decide_true, Bool.true_and, Nat.add_comm i]
    · simp only [h1, if_false, decide_false, Bool.false_and, Bool.and_false, Bool.or_false, Nat.le_of_not_lt h1, true_and]

theorem Law_append_assoc (a b c : BV) : (a.append b).append c = a.append (b.append c) := by
  unfold BV.append; congr 1
  · exact Nat.add_assoc ..
  · rw [Nat.pow_add, Nat.add_mul, Nat.add_assoc, Nat.mul_assoc, Nat.mul_comm (2 ^ b.len)]

theorem Law_append_zero_len (a : BV) : a.append ⟨0, 0⟩ = a := by
  unfold BV.append; simp only [Nat.add_zero, Nat.zero_mul]

theorem Law_zero_len_append (a : BV) : (BV.mk 0 0).append a = a := by
  unfold BV.append; simp only [Nat.zero_add, Nat.pow_zero, Nat.mul_one]

theorem Law_prepend_append (a x : BV) : a.prepend x = x.append a := BV.lv_prepend_eq_append a x

theorem Law_push_eq_append (a : BV) (b : Bool) : a.push b = a.append ⟨1, b.toNat⟩ := rfl

theorem Law_extend_eq_append (a : BV) (bs : List Bool) (ha : a.WF) : a.extend bs = a.append (BV.ofBits bs) := by
  apply BV.eq_of_bits _ _ (BV.extend_wf a bs ha) (BV.append_wf _ _ ha (BV.ofBits_wf bs))
  rw [BV.extend_bits a bs ha, BV.bits_append _ _ ha, BV.ofBits_bits]

theorem Law_insert_0 (a x : BV) : a.insert 0 x = a.prepend x := by
  unfold BV.insert BV.prepend
  simp only [Nat.pow_zero, Nat.mod_one, Nat.mul_one, Nat.zero_add, Nat.shiftRight_zero]

theorem Law_insert_len (a x : BV) (ha : a.WF) : a.insert a.len x = a.append x := by
  unfold BV.insert BV.append
  rw [Nat.mod_eq_of_lt ha, Nat.shiftRight_eq_div_pow, Nat.div_eq_of_lt ha, Nat.zero_mul, Nat.add_zero]

theorem Law_insert_len_false : ∃ a x : BV, x.WF ∧ a.insert a.len x ≠ a.append x :=
  ⟨⟨1, 2⟩, ⟨1, 0⟩, by decide, by decide⟩

theorem Law_insert_split (a : BV) (i : Nat) (x : BV) (ha : a.WF) (hi : i ≤ a.len) :
    a.insert i x = ((a.splitOff i).1.append x).append (a.splitOff i).2 := BV.lv_insert_eq a i x ha hi

theorem Law_push_pop (a : BV) (b : Bool) (ha : a.WF) : (a.push b).pop = (a, some b) := by
  have hb : (a.push b).bit a.len = b := by
    rw [BV.push_bit a b ha, if_neg (Nat.lt_irrefl _), decide_eq_true rfl, Bool.true_and]
  unfold BV.pop
  exact Prod.ext (congrArg (BV.mk a.len) ((Nat.add_mul_mod_self_right ..).trans (Nat.mod_eq_of_lt ha)))
    (congrArg some hb)

theorem Law_pop_empty (a : BV) (h : a.len = 0) : a.pop = (a, none) := by
  unfold BV.pop; rw [if_pos h]

theorem Law_pop_push (a : BV) (ha : a.WF) (hl : 0 < a.len) : ∃ b, a.pop.2 = some b ∧ a.pop.1.push b = a := by
  have hne : a.bits ≠ [] := List.ne_nil_of_length_pos (by rw [BV.bits_length]; exact hl)
  have hw := Law_wf_pop a ha
  refine ⟨a.bits.getLast hne, by rw [BV.pop_snd, List.getLast?_eq_some_getLast hne],
    BV.eq_of_bits _ _ (Law_wf_push _ _ hw) ha ?_⟩
  rw [BV.push_bits _ _ hw, BV.pop_fst_bits, List.dropLast_concat_getLast]

theorem Law_pop_push' (a : BV) (ha : a.WF) (hl : 0 < a.len) :
    match a.pop with
    | (p, some b) => p.push b = a
    | (_, none) => False := by
  obtain ⟨b, h1, h2⟩ := Law_pop_push a ha hl
  generalize a.pop = r at h1 h2
  obtain ⟨p, o⟩ := r
  subst h1
  exact h2

theorem Law_split_append (a : BV) (i : Nat) (ha : a.WF) (hi : i ≤ a.len) :
    (a.splitOff i).1.append (a.splitOff i).2 = a := BV.append_splitOff a i ha hi

theorem Law_append_split (a b : BV) (ha : a.WF) (hb : b.WF) : (a.append b).splitOff a.len = (a, b) :=
  BV.splitOff_append a b ha hb

theorem Law_copyRange_full (a : BV) (ha : a.WF) : a.copyRange 0 a.len = a :=
  congrArg (BV.mk a.len) (Nat.mod_eq_of_lt ha)

theorem Law_copyRange_copyRange (a : BV) (s e s' e' : Nat) (h : e' ≤ e - s) :
    (a.copyRange s e).copyRange s' e' = a.copyRange (s + s') (s + e') :=
  BV.ext_bits (Nat.add_sub_add_left s e' s').symm fun i => by
    simp only [BV.copyRange_bit, ← Bool.and_assoc, ← Bool.decide_and, Nat.add_assoc, Nat.add_sub_add_left]
    exact gate_congr ⟨And.left, fun h1 => ⟨h1, Nat.lt_of_lt_of_le (Nat.add_lt_of_lt_sub' h1) h⟩⟩ fun _ => rfl

theorem Law_copyRange_copyRange_false : ∃ (a : BV) (s e s' e' : Nat), a.WF ∧
    (a.copyRange s e).copyRange s' e' ≠ a.copyRange (s + s') (s + e') :=
  ⟨⟨2, 3⟩, 0, 1, 0, 2, by decide, by decide⟩

theorem Law_copyRange_eq_shr_resize (a : BV) (s e : Nat) (ha : a.WF) (h : e - s ≤ a.len) :
    a.copyRange s e = (a.shr s).resize (e - s) false := by
  unfold BV.resize
  rw [BV.shr_len, if_pos h, Law_shr_div a s ha]
  unfold BV.copyRange
  rw [Nat.shiftRight_eq_div_pow]

theorem Law_resize_resize_grow_shrink (a : BV) (m : Nat) (b c : Bool) (ha : a.WF) (hm : a.len ≤ m) :
    (a.resize m b).resize a.len c = a :=
  BV.resize_resize a m b c ha hm

theorem Law_resize_self (a : BV) (b : Bool) (ha : a.WF) : a.resize a.len b = a := BV.resize_self a b ha

theorem Law_resize_grow_eq_append (a : BV) (m : Nat) (b : Bool) (ha : a.WF) (hm : a.len ≤ m) :
    a.resize m b = a.append (BV.repeat b (m - a.len)) :=
  BV.resize_eq_append a m b ha hm

theorem Law_truncate_idem (a : BV) (m : Nat) : (a.truncate m).truncate m = a.truncate m :=
  BV.truncate_of_le _ m (BV.truncate_len a m ▸ Nat.min_le_left ..)

theorem Law_signExtend_idem (a : BV) (m : Nat) : (a.signExtend m).signExtend m = a.signExtend m :=
  BV.signExtend_of_le _ m (BV.signExtend_len a m ▸ Nat.le_max_left ..)

theorem Law_set_get (a : BV) (i : Nat) (b : Bool) :
    (a.set i b).bit i = b ∧ ∀ j, j ≠ i → (a.set i b).bit j = a.bit j :=
  ⟨by rw [BV.set_bit, if_pos rfl], fun j hj => by rw [BV.set_bit, if_neg hj]⟩

theorem Law_set_set (a : BV) (i : Nat) (b c : Bool) : (a.set i b).set i c = a.set i c :=
  BV.ext_bits rfl fun j => by
    simp only [BV.set_bit]
    by_cases h : j = i
    · rw [if_pos h, if_pos h]
    · rw [if_neg h, if_neg h, if_neg h]

theorem Law_set_comm (a : BV) (i j : Nat) (b c : Bool) (h : i ≠ j) : (a.set i b).set j c = (a.set j c).set i b :=
  BV.ext_bits rfl fun t => by
    simp only [BV.set_bit]
    by_cases h1 : t = j
    · rw [if_pos h1, if_neg (fun e : t = i => h (e ▸ h1)), if_pos h1]
    · rw [if_neg h1, if_neg h1]

theorem Law_set_same (a : BV) (i : Nat) : a.set i (a.bit i) = a :=
  BV.ext_bits rfl fun t => by
    rw [BV.set_bit]
    by_cases h : t = i
    · rw [if_pos h, h]
    · rw [if_neg h]

theorem Law_bits_ofBits (a : BV) (ha : a.WF) : BV.ofBits a.bits = a := BV.ofBits_bits_self a ha

theorem Law_ofBits_bits (l : List Bool) : (BV.ofBits l).bits = l := BV.ofBits_bits l

theorem Law_repeat_bits (b : Bool) (n : Nat) : (BV.repeat b n).bits = List.replicate n b :=
  BV.repeat_bits b n

theorem Law_eq_iff_bits (a b : BV) (ha : a.WF) (hb : b.WF) : a = b ↔ a.bits = b.bits := BV.eq_iff_bits a b ha hb

theorem Law_lz_sig (a : BV) (ha : a.WF) : a.leadingZeros + a.sig = a.len := BV.leadingZeros_add_sig a ha

theorem Law_isZero_iff_sig (a : BV) : a.isZero = true ↔ a.sig = 0 := BV.isZero_iff_sig a

theorem Law_isZero_iff_val (a : BV) : a.isZero = true ↔ a.val = 0 := beq_iff_eq

theorem Law_isZero_iff_zeros (a : BV) : a.isZero = true ↔ a = BV.zeros a.len :=
  (Law_isZero_iff_val a).trans ⟨congrArg (BV.mk a.len), congrArg BV.val⟩

theorem Law_lz_le (a : BV) : a.leadingZeros ≤ a.len := BV.leadingZeros_le_len a

theorem Law_tz_le (a : BV) : a.trailingZeros ≤ a.len := BV.trailingZeros_le_len a

theorem Law_tz_eq_len_iff (a : BV) (ha : a.WF) : a.trailingZeros = a.len ↔ a.val = 0 := by
  constructor
  · intro h
    apply Nat.eq_of_testBit_eq
    intro i
    rw [Nat.zero_testBit]
    by_cases h1 : i < a.len
    · exact BV.bit_of_lt_trailingZeros a i (h ▸ h1)
    · exact BV.bit_of_le_len a ha i (Nat.le_of_not_lt h1)
  · intro h
    unfold BV.trailingZeros
    rw [h, BV.natTz_zero]

theorem Law_lz_eq_len_iff (a : BV) (ha : a.WF) : a.leadingZeros = a.len ↔ a.val = 0 := by
  rw [← BV.natBits_eq_zero_iff, ← Law_lz_sig a ha]
  exact Nat.left_eq_add

theorem Law_sig_spec (a : BV) : (∀ i, a.sig ≤ i → a.bit i = false) ∧ (a.sig = 0 ∨ a.bit (a.sig - 1) = true) :=
  ⟨fun i h => BV.bit_of_sig_le a i h, BV.sig_top a⟩

theorem Law_sig_iff_lt (a : BV) (n : Nat) : a.sig ≤ n ↔ a.val < 2 ^ n := BV.natBits_le_iff a.val n

theorem Law_tz_spec (a : BV) :
    (∀ i, i < a.trailingZeros → a.bit i = false) ∧ (a.trailingZeros < a.len → a.bit a.trailingZeros = true) :=
  ⟨fun i h => BV.bit_of_lt_trailingZeros a i h, fun h => BV.bit_trailingZeros a h⟩

theorem Law_lo_eq_lz_not (a : BV) : a.leadingOnes = a.not.leadingZeros := rfl

theorem Law_to_eq_tz_not (a : BV) : a.trailingOnes = a.not.trailingZeros := rfl

theorem Law_tz_shl (a : BV) (k : Nat) : (a.shl k).trailingZeros = min (a.trailingZeros + k) a.len := by
  apply BV.trailingZeros_unique
  · rw [BV.shl_len]; exact Nat.min_le_right _ _
  · intro i hi
    rw [BV.shl_bit]
    exact Bool.and_eq_false_imp.mpr fun h => BV.bit_of_lt_trailingZeros a _
      (Nat.sub_lt_right_of_lt_add (of_decide_eq_true h).1 (Nat.lt_min.mp hi).1)
  · rw [BV.shl_len]
    intro h
    -- the minimum is below `a.len`, so it is not `a.len`
    have h1 : a.trailingZeros + k < a.len := Nat.lt_of_not_le fun h' => Nat.lt_irrefl _ (Nat.min_eq_right h' ▸ h)
    rw [Nat.min_eq_left (Nat.le_of_lt h1), BV.shl_bit, decide_eq_true ⟨Nat.le_add_left _ _, h1⟩, Bool.true_and,
      Nat.add_sub_cancel]
    exact BV.bit_trailingZeros a (Nat.lt_of_le_of_lt (Nat.le_add_right _ _) h1)

theorem Law_sig_shl (a : BV) (k : Nat) (h0 : a.val ≠ 0) (h : a.sig + k ≤ a.len) : (a.shl k).sig = a.sig + k := by
  -- nothing is shifted out: `val < 2 ^ sig`, so `val * 2 ^ k < 2 ^ (sig + k) ≤ 2 ^ len`
  have hv : a.val * 2 ^ k < 2 ^ a.len := by
    refine Nat.lt_of_lt_of_le (Nat.mul_lt_mul_of_pos_right (BV.lt_two_pow_natBits a.val) (Nat.two_pow_pos k)) ?_
    rw [← Nat.pow_add]
    exact Nat.pow_le_pow_right (by decide) h
  unfold BV.sig
  rw [Law_shl_mul, Nat.mod_eq_of_lt hv]
  exact BV.natBits_mul_two_pow _ k h0

theorem Law_sig_shr (a : BV) (k : Nat) (ha : a.WF) : (a.shr k).sig = a.sig - k := by
  unfold BV.sig
  rw [Law_shr_div a k ha]
  exact BV.natBits_div_two_pow _ k

theorem Law_lz_shr (a : BV) (k : Nat) (ha : a.WF) : (a.shr k).leadingZeros = min (a.leadingZeros + k) a.len := by
  -- `sig - k` is `len - (lz + k)`, and `len - (len - x) = min len x`; the `show` unfolds `leadingZeros` on the left only
  have e : a.sig - k = a.len - (a.leadingZeros + k) := by
    unfold BV.leadingZeros; rw [Nat.sub_add_eq, Nat.sub_sub_self (BV.sig_le_len a ha)]
  show (a.shr k).len - (a.shr k).sig = _
  rw [Law_sig_shr a k ha, BV.shr_len, e, Nat.sub_sub_eq_min, Nat.min_comm]

theorem Law_fromBytes_toVec (a : BV) (big : Bool) (ha : a.WF) :
    BV.fromBytes (a.toVec big) big = a.resize (8 * ((a.len + 7) / 8)) false := by
  rw [BV.fromBytes_toVec a ha big, BV.resize_zext a _ (lt_two_pow_of_le ha (le_mul_bytes _))]

theorem Law_toVec_length (a : BV) (big : Bool) : (a.toVec big).length = (a.len + 7) / 8 := BV.length_toVec a big

theorem Law_toVec_lt (a : BV) (big : Bool) : ∀ b ∈ a.toVec big, b < 256 := BV.toVec_lt a big

theorem Law_toVec_reverse (a : BV) : a.toVec true = (a.toVec false).reverse := rfl

theorem Law_toVec_roundtrip (a : BV) (big : Bool) (ha : a.WF) :
    (BV.fromBytes (a.toVec big) big).truncate a.len = a := by
  rw [BV.fromBytes_toVec a ha big]; exact BV.truncate_zext a ha _ (le_mul_bytes _)

def digitVal (c : Char) : Nat :=
  if c.toNat < 58 then c.toNat - 48 else if c.toNat < 97 then c.toNat - 55 else c.toNat - 87

def readNumeral (base : Nat) (cs : List Char) : Nat := cs.foldl (fun acc c => acc * base + digitVal c) 0

theorem Law_digitVal_digitChar (upper : Bool) (d : Nat) (hd : d < 16) : digitVal (BV.digitChar upper d) = d :=
  fmt_digitVal_digitChar upper d hd

theorem Law_numeral_value (base : Nat) (upper : Bool) (v : Nat) (hb : 2 ≤ base) (hb' : base ≤ 16) :
    readNumeral base (BV.numeral base upper v) = v :=
  BV.numeral_digitsVal base upper hb hb' v

theorem Law_numeral_injective (base : Nat) (upper : Bool) (v1 v2 : Nat) (hb : 2 ≤ base) (hb' : base ≤ 16)
    (h : BV.numeral base upper v1 = BV.numeral base upper v2) : v1 = v2 :=
  BV.numeral_injective base upper hb hb' v1 v2 h

theorem Law_numeral_canonical (base : Nat) (upper : Bool) (v : Nat) (hb : 2 ≤ base) (hb' : base ≤ 16) :
    (v = 0 → BV.numeral base upper v = ['0']) ∧
    (v ≠ 0 → ∃ c cs, BV.numeral base upper v = c :: cs ∧ c ≠ '0') ∧
    (∀ c ∈ BV.numeral base upper v, ∃ d, d < base ∧ c = BV.digitChar upper d) :=
  ⟨fun h => by rw [h]; rfl, BV.numeral_head base upper hb hb' v, BV.numeral_valid base upper hb v⟩

end Bva
