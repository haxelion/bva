import BvaProps.C07
/-!
# C08 — slicing and splitting partition the bits without loss or reordering
-/
namespace Bva

/-- `copy_range(s..e)`, `s ≤ e ≤ len`: a vector of length `e - s` whose bit `i` is the source's bit `s + i`
(value semantics: the model is a pure function of the source, which is untouched).  For a `Bv` source both
storage modes are covered, including the demotion of a short slice of a heap vector to inline storage. -/
theorem C08_copy_range (v : Vec) (hv : v.Inv) (st en : Nat) (hse : st ≤ en) (hen : en ≤ v.len) :
    (Api.copyRange v st en).Inv ∧ (Api.copyRange v st en).abs = v.abs.copyRange st en ∧
    (Api.copyRange v st en).ty = v.ty := Api.copyRange_refines v hv st en hse hen

/-- list view of the slice -/
theorem C08_copy_range_bits (a : BV) (st en : Nat) (hen : en ≤ a.len) :
    (a.copyRange st en).bits = (a.bits.drop st).take (en - st) ∧ (a.copyRange st en).len = en - st :=
  ⟨BV.copyRange_bits_list a st en hen, rfl⟩

/-- trait default `split_off(i)`, `i ≤ len` -/
theorem C08_split_off (v : Vec) (hv : v.Inv) (i : Nat) (hi : i ≤ v.len) :
    ∃ lo hi', Api.splitOff v i = .ok (lo, hi') ∧ lo.Inv ∧ hi'.Inv ∧
      (lo.abs, hi'.abs) = v.abs.splitOff i ∧ lo.ty = v.ty ∧ hi'.ty = v.ty := C07_split_off v hv i hi

/-- appending the high part to the low part reconstructs the original (list level and value level) -/
theorem C08_split_reconstructs (a : BV) (ha : a.WF) (i : Nat) (hi : i ≤ a.len) :
    (a.splitOff i).1.bits ++ (a.splitOff i).2.bits = a.bits ∧
    BV.append (a.splitOff i).1 (a.splitOff i).2 = a ∧ (a.splitOff i).1.len = i :=
  ⟨BV.splitOff_bits a i ha hi, BV.append_splitOff a i ha hi, rfl⟩

/-- `first()` / `last()`: bit 0 / bit `len-1`, `None` for an empty vector -/
theorem C08_first_last (v : Vec) (hv : v.Inv) :
    Api.first v = v.abs.first ∧ Api.last v = v.abs.last ∧
    v.abs.first = v.abs.bits.head? ∧ v.abs.last = v.abs.bits.getLast? := by
  have h : ∀ i, (if v.len > 0 then some (Api.get v i) else none) = if v.abs.len = 0 then none else some (v.abs.bit i) := by
    intro i
    rw [Vec.abs_len, Api.get_eq_bit v hv.wpos]
    by_cases h : v.len = 0
    · rw [if_pos h, if_neg (Nat.not_lt.mpr (Nat.le_of_eq h))]
    · rw [if_neg h, if_pos (Nat.pos_of_ne_zero h)]
  exact ⟨h 0, by rw [Api.last, h, BV.last, Vec.abs_len], BV.first_eq_head? _, BV.last_eq_getLast? _⟩

end Bva
