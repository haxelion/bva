import BvaProofs.Api
/-!
# C05 — shifts are logical, length-preserving, and zero-fill for every shift amount

`Api.shl v k byRef` / `Api.shr` model `<<`, `>>`, `<<=`, `>>=` in all six forms for a shift amount `k` of
any native unsigned type (the amount is narrowed to `usize` by saturation — repair D4 — which is
`Api.narrowShift`); `byRef` selects the separately written `&Bvd << k` / `&Bvd >> k` bodies.
`Api.shlIn` / `Api.shrIn` model `shl_in` / `shr_in`.  The only side condition is the Rust fact that a
length is a `usize` (`v.len < 2^64`).
-/
namespace Bva

/-- narrowing the amount to `usize` by saturation does not change the result -/
theorem C05_amount (a : BV) (k : Nat) (hl : a.len < 2 ^ 64) :
    a.shl (Api.narrowShift k) = a.shl k ∧ a.shr (Api.narrowShift k) = a.shr k :=
  Api.narrowShift_spec a k hl

/-- L0 meaning bit by bit: bit `i` of `a << k` is bit `i-k` of `a` when `k ≤ i < n`, zero otherwise;
bit `i` of `a >> k` is bit `i+k` of `a` when `i+k < n`, zero otherwise; the length is unchanged.
In particular everything is zero when `k ≥ n`. -/
theorem C05_spec_bits (a : BV) (ha : a.WF) (k i : Nat) :
    (a.shl k).len = a.len ∧ (a.shr k).len = a.len ∧
    (a.shl k).bit i = (decide (k ≤ i ∧ i < a.len) && a.bit (i - k)) ∧
    (a.shr k).bit i = (decide (i + k < a.len) && a.bit (i + k)) :=
  ⟨BV.shl_len a k, BV.shr_len a k, BV.shl_bit a k i, BV.shr_bit a ha k i⟩

/-- `v << k` for every implementation, every form, every amount. -/
theorem C05_shl (v : Vec) (hv : v.Inv) (k : Nat) (byRef : Bool) (hl : v.len < 2 ^ 64) :
    (Api.shl v k byRef).Inv ∧ (Api.shl v k byRef).abs = v.abs.shl k :=
  let r := Api.shl_refines v hv k byRef hl; ⟨r.1, r.2.1⟩

/-- `v >> k` for every implementation, every form, every amount. -/
theorem C05_shr (v : Vec) (hv : v.Inv) (k : Nat) (byRef : Bool) (hl : v.len < 2 ^ 64) :
    (Api.shr v k byRef).Inv ∧ (Api.shr v k byRef).abs = v.abs.shr k :=
  let r := Api.shr_refines v hv k byRef hl; ⟨r.1, r.2.1⟩

/-- `shl_in(b)`: shift up by exactly one, `b` enters at bit 0, the old top bit is returned
(`b` itself when the vector is empty) — `BV.shlIn`. -/
theorem C05_shl_in (v : Vec) (hv : v.Inv) (b : Bool) :
    (Api.shlIn v b).1.Inv ∧ ((Api.shlIn v b).1.abs, (Api.shlIn v b).2) = v.abs.shlIn b :=
  let r := Api.shlIn_refines v hv b; ⟨r.1.1, Prod.ext r.1.2.1 r.2⟩

/-- `shr_in(b)`: shift down by one, `b` enters at the top, the old bit 0 is returned. -/
theorem C05_shr_in (v : Vec) (hv : v.Inv) (b : Bool) :
    (Api.shrIn v b).1.Inv ∧ ((Api.shrIn v b).1.abs, (Api.shrIn v b).2) = v.abs.shrIn b :=
  let r := Api.shrIn_refines v hv b; ⟨r.1.1, Prod.ext r.1.2.1 r.2⟩

/-- non-vacuity: the hypotheses are met by a concrete full 8-bit `Bvf<u8,1>`, for which the theorem gives
`(v << 2^64) = 0` (a `u128` amount beyond the platform word) -/
example : (Vec.f 8 ⟨#[0xff#8], 8⟩ : Vec).Inv ∧ (Vec.f 8 ⟨#[0xff#8], 8⟩ : Vec).len < 2 ^ 64 :=
  ⟨⟨wok8, (Raw.invB_iff _ (by decide)).mp (by decide)⟩, by decide⟩
example : (Api.shl (.f 8 ⟨#[0xff#8], 8⟩) (2 ^ 64) false).abs = ⟨8, 0⟩ := by
  have hv : (Vec.f 8 ⟨#[0xff#8], 8⟩ : Vec).Inv := ⟨wok8, (Raw.invB_iff _ (by decide)).mp (by decide)⟩
  rw [(C05_shl _ hv (2 ^ 64) false (by decide)).2]
  decide

end Bva
