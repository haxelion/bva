import BvaProofs.Hist
import BvaProofs.Api
import BvaProps.C02
import BvaProps.C07
import BvaProps.C08
import BvaProps.C09
import BvaProps.C10
import BvaProps.C11
import BvaProps.C13
import BvaProps.C14
import BvaProps.C16
import BvaProps.C17
/-!
# C03 — length and bits alone determine a vector: no hidden state after any history

`Api.step` / `Api.run` apply public mutating operations (with operands of any type) to a subject vector;
`Api.observe` applies a public observer.  `specStep` / `specRun` / `specObserve` do the same on the abstraction
`(capacity, len, val)`.  The theorems: every step preserves the storage invariant and commutes with abstraction
(`C03_step`), hence every history does (`C03_history`), every observer is a function of the abstraction
(`C03_observers`), and therefore two vectors with the same length and bits — however they were produced, with
whatever spare capacity or storage mode — are indistinguishable by any observer after any further history
(`C03_fresh`).  Constructors produce `Inv` states (C07, C11, C12, C13, C15, C19).
Not covered by the observer theorem: `{}` (decimal digits; `div_rem` itself is in the step language) and the
conversions to other implementations, which are in C12.
-/
namespace Bva

/-- argument preconditions of an operation, stated on the abstraction (documented domains; operands satisfy their invariant) -/
def Op.Ok (a : BV) : Op → Prop
  | .set i _ => i < a.len
  | .append x => x.Inv
  | .prepend x => x.Inv
  | .insert i x => i ≤ a.len ∧ x.Inv
  | .rotl k => k ≤ a.len
  | .rotr k => k ≤ a.len
  | .shl _ _ => a.len < 2 ^ 64
  | .shr _ _ => a.len < 2 ^ 64
  | .addsub _ x => x.Inv
  | .mul x => x.Inv
  | .bitop _ x => x.Inv
  | .div x => x.Inv
  | .rem x => x.Inv
  | .splitOff i => i ≤ a.len
  | .copyRange s e => s ≤ e ∧ e ≤ a.len
  | _ => True

/-- the relation "same outcome": both succeed with related states and equal by-products, or both panic -/
def StepRel (v : Vec) (r : Res (Vec × StepOut)) (s : Res (BV × StepOut)) : Prop :=
  match r, s with
  | .ok (v', o), .ok (a', o') => v'.Inv ∧ v'.abs = a' ∧ o = o' ∧ v'.ty = v.ty
  | .panic, .panic => True
  | _, _ => False

theorem StepRel.ok {v v' : Vec} {a' : BV} (o : StepOut) (h : v.Refines v' a') :
    StepRel v (.ok (v', o)) (.ok (a', o)) := ⟨h.1, h.2.1, rfl, h.2.2⟩

/-- a step that keeps the component `f` of a successful result and yields no by-product -/
theorem StepRel.map {α : Type} {v : Vec} {res : Res α} {x : α} (f : α → Vec) {a' : BV} (e : res = .ok x)
    (h : v.Refines (f x) a') : StepRel v (res.map fun p => (f p, none)) (.ok (a', none)) :=
  e ▸ StepRel.ok none h

theorem StepRel.of_editOk {v : Vec} {res : Res Vec} {spec : BV} (h : EditOk v res spec) :
    StepRel v (res.map (·, none))
      (match v.capOpt with
        | some c => if spec.len ≤ c then .ok (spec, none) else .panic
        | none => .ok (spec, none)) := by
  unfold EditOk Vec.fits at h
  cases hc : v.capOpt with
  | none =>
    obtain ⟨r, e, hr⟩ := (hc ▸ h).1 trivial
    exact StepRel.map id e hr
  | some c =>
    rw [hc] at h
    by_cases hf : spec.len ≤ c
    · obtain ⟨r, e, hr⟩ := h.1 hf
      simp only [if_pos hf]   -- reduces the `match` on `some c` as well
      exact StepRel.map id e hr
    · rw [h.2 hf]
      simp only [if_neg hf]
      trivial

/-- quotient and remainder of a `div_rem` as steps: a zero divisor panics on both sides -/
theorem StepRel.divRem {v : Vec} {res : Res (Vec × Vec)} {d : Nat} {q r : BV}
    (h : (d = 0 → res = .panic) ∧ (d ≠ 0 → ∃ q' r', res = .ok (q', r') ∧ q'.Inv ∧ r'.Inv ∧
      q'.abs = q ∧ r'.abs = r ∧ q'.ty = v.ty ∧ r'.ty = v.ty)) :
    StepRel v (res.map fun p => (p.1, none)) (if d = 0 then .panic else .ok (q, none)) ∧
    StepRel v (res.map fun p => (p.2, none)) (if d = 0 then .panic else .ok (r, none)) := by
  by_cases h0 : d = 0
  · rw [h.1 h0, if_pos h0, if_pos h0]
    exact ⟨trivial, trivial⟩
  · obtain ⟨q', r', e, hq, hr, aq, ar, tq, tr⟩ := h.2 h0
    rw [if_neg h0, if_neg h0]
    exact ⟨StepRel.map Prod.fst e ⟨hq, aq, tq⟩, StepRel.map Prod.snd e ⟨hr, ar, tr⟩⟩

/-- one step: from an `Inv` state, with valid arguments, the model step and the L0 step have the same outcome;
a successful step re-establishes `Inv`, commutes with abstraction and keeps the vector's type -/
theorem C03_step (v : Vec) (hv : v.Inv) (op : Op) (hop : op.Ok v.abs) :
    StepRel v (Api.step v op) (specStep v.capOpt v.abs op) := by
  have hl := Vec.abs_len v
  cases op with
  | push b => exact StepRel.of_editOk (C07_push v hv b)
  | pop => have r := C07_pop v hv; exact ⟨r.1, congrArg Prod.fst r.2.1, congrArg Prod.snd r.2.1, r.2.2⟩
  | set i b => exact StepRel.ok _ (C07_set v hv i b (hl ▸ hop))
  | resize n b => exact StepRel.of_editOk (C07_resize v hv n b)
  | truncate n => obtain ⟨r, e, h⟩ := C07_truncate v hv n; exact StepRel.map id e h
  | signExtend n => exact StepRel.of_editOk (C07_sign_extend v hv n)
  | append x => exact StepRel.of_editOk (C07_append v x hv hop)
  | prepend x => exact StepRel.of_editOk (C07_prepend v x hv hop)
  | insert i x => exact StepRel.of_editOk (C07_insert v x hv hop.2 i (hl ▸ hop.1))
  | extend bs hint => exact StepRel.of_editOk (C07_extend v hv bs hint)
  | shlIn b =>
    have r := Api.shlIn_refines v hv b
    exact ⟨r.1.1, r.1.2.1, congrArg some r.2, r.1.2.2⟩
  | shrIn b =>
    have r := Api.shrIn_refines v hv b
    exact ⟨r.1.1, r.1.2.1, congrArg some r.2, r.1.2.2⟩
  | rotl k => exact StepRel.ok _ (Api.rotl_refines v hv k (hl ▸ hop))
  | rotr k => exact StepRel.ok _ (Api.rotr_refines v hv k (hl ▸ hop))
  | shl k br => exact StepRel.ok _ (Api.shl_refines v hv k br (hl ▸ hop))
  | shr k br => exact StepRel.ok _ (Api.shr_refines v hv k br (hl ▸ hop))
  | not br => exact StepRel.ok _ (Api.not_refines v hv br)
  | addsub sb x => exact StepRel.ok _ (Api.addsub_refines sb v x hv hop)
  | mul x => exact StepRel.ok _ (Api.mul_refines v x hv hop)
  | bitop o x =>
    have r := Api.bitop_refines o v x hv hop
    exact StepRel.ok _ ⟨r.1, r.2.1.trans (by cases o <;> rfl), r.2.2⟩
  | div x => exact (StepRel.divRem (C02_operators v x hv hop)).1
  | rem x => exact (StepRel.divRem (C02_operators v x hv hop)).2
  | reserve k => exact StepRel.ok _ (Api.reserve_refines v hv k)
  | shrinkToFit => exact StepRel.ok _ (Api.shrinkToFit_refines v hv)
  | splitOff i =>
    obtain ⟨lo, hi', e, hlo, _, hab, tlo, _⟩ := C08_split_off v hv i (hl ▸ hop)
    exact StepRel.map Prod.fst e ⟨hlo, congrArg Prod.fst hab, tlo⟩
  | copyRange s e => exact StepRel.ok _ (C08_copy_range v hv s e hop.1 (hl ▸ hop.2))

theorem StepRel.cases {v : Vec} {r : Res (Vec × StepOut)} {s : Res (BV × StepOut)} (h : StepRel v r s) :
    (∃ v' a' o, r = .ok (v', o) ∧ s = .ok (a', o) ∧ v'.Inv ∧ v'.abs = a' ∧ v'.ty = v.ty) ∨ (r = .panic ∧ s = .panic) := by
  rcases r with ⟨v', o⟩ | _ | _ <;> rcases s with ⟨a', o'⟩ | _ | _
  case ok.ok => exact .inl ⟨v', a', o, rfl, h.2.2.1 ▸ rfl, h.1, h.2.1, h.2.2.2⟩
  case panic.panic => exact .inr ⟨rfl, rfl⟩
  all_goals exact h.elim

/-- valid histories: every operation's arguments are valid for the (abstract) state it is applied to -/
def OpsOk (cap : Option Nat) : BV → List Op → Prop
  | _, [] => True
  | a, op :: ops => op.Ok a ∧ match specStep cap a op with
    | .ok (a', _) => OpsOk cap a' ops
    | _ => True

def RunRel (v : Vec) (r : Res (Vec × List StepOut)) (s : Res (BV × List StepOut)) : Prop :=
  match r, s with
  | .ok (v', os), .ok (a', os') => v'.Inv ∧ v'.abs = a' ∧ os = os' ∧ v'.ty = v.ty
  | .panic, .panic => True
  | _, _ => False

theorem RunRel.cases {v : Vec} {r : Res (Vec × List StepOut)} {s : Res (BV × List StepOut)} (h : RunRel v r s) :
    (∃ v' a' o, r = .ok (v', o) ∧ s = .ok (a', o) ∧ v'.Inv ∧ v'.abs = a' ∧ v'.ty = v.ty) ∨ (r = .panic ∧ s = .panic) := by
  rcases r with ⟨v', o⟩ | _ | _ <;> rcases s with ⟨a', o'⟩ | _ | _
  case ok.ok => exact .inl ⟨v', a', o, rfl, h.2.2.1 ▸ rfl, h.1, h.2.1, h.2.2.2⟩
  case panic.panic => exact .inr ⟨rfl, rfl⟩
  all_goals exact h.elim

/-- any history: from an `Inv` state, a history of valid operations behaves on the model exactly as on the
abstraction: same by-products step by step, same final (length, bits), same panics; `Inv` holds throughout -/
theorem C03_history (ops : List Op) : ∀ (v : Vec), v.Inv → OpsOk v.capOpt v.abs ops →
    RunRel v (Api.run v ops) (specRun v.capOpt v.abs ops) := by
  induction ops with
  | nil => intro v hv _; exact ⟨hv, rfl, rfl, rfl⟩
  | cons op ops ih =>
    intro v hv hok
    rcases (C03_step v hv op hok.1).cases with ⟨v', _, o, e1, e2, hv', rfl, ht⟩ | ⟨e1, e2⟩
    · have hrest := hok.2
      rw [e2, ← Vec.capOpt_of_ty ht] at hrest
      have h := ih v' hv' hrest
      rw [Vec.capOpt_of_ty ht] at h
      rw [Api.run, specRun, e1, e2]
      rcases h.cases with ⟨v'', a'', os, e3, e4, h3⟩ | ⟨e3, e4⟩
      · simp only [e3, e4]
        exact ⟨h3.1, h3.2.1, rfl, h3.2.2.trans ht⟩
      · simp only [e3, e4]
        trivial
    · rw [Api.run, specRun, e1, e2]
      trivial

/-- word width that the hash stream depends on (the storage word type is part of the vector's type) -/
def Vec.hashW : Vec → Nat
  | .f w _ => w
  | _ => 64

/-- argument preconditions of observers -/
def Obs.Ok (a : BV) : Obs → Prop
  | .toUInt W => WOk W
  | .digits k => k = 'b' ∨ k = 'o' ∨ k = 'x' ∨ k = 'X'
  | .eq x => x.Inv
  | .cmp x => x.Inv
  | _ => True

/-- every observer is a function of the abstraction (and of the vector's type) -/
theorem C03_observers (v : Vec) (hv : v.Inv) (o : Obs) (ho : o.Ok v.abs) :
    Api.observe v o = specObserve v.hashW v.abs o := by
  cases o with
  | len => exact congrArg ObsOut.nat (Vec.abs_len v).symm
  | get i => exact congrArg ObsOut.bool (Api.get_eq_bit v hv.wpos i)
  | first => exact congrArg ObsOut.obit (C08_first_last v hv).1
  | last => exact congrArg ObsOut.obit (C08_first_last v hv).2.1
  | counts =>
    obtain ⟨h1, h2, h3, h4, h5, h6⟩ := C16_counts v hv
    show ObsOut.six _ _ _ _ _ _ = ObsOut.six _ _ _ _ _ _
    rw [h1, h2, h3, h4, h5, h6]
  | toVec big => exact congrArg ObsOut.bytes (C13_to_vec v hv big).1
  | toUInt W => exact congrArg ObsOut.uint (C11_to_uint v hv W ho)
  | hash => exact (congrArg ObsOut.hash (C10_stream_is_spec v hv)).trans (by rcases v with _ | _ | _ <;> rfl)
  | digits k =>
    have r := C14_digits v hv
    rcases ho with rfl | rfl | rfl | rfl
    · exact congrArg ObsOut.chars r.1
    · exact congrArg ObsOut.chars r.2.1
    · exact congrArg ObsOut.chars r.2.2.1
    · exact congrArg ObsOut.chars r.2.2.2
  | iter rev calls => exact congrArg ObsOut.iter (C17_refines v hv.wpos rev calls)
  | eq x => exact congrArg ObsOut.bool (C09_numeric v x hv ho).1
  | cmp x => exact congrArg ObsOut.ord (C09_numeric v x hv ho).2

/-- the property: a vector that came out of any history (`s`, any `Inv` state — spare capacity, either storage mode)
and a fresh vector of the same type with the same length and bits (`t`) give the same answer to every observer, and
remain indistinguishable after every further history: same by-products, same panics, same final length and bits. -/
theorem C03_fresh (s t : Vec) (hs : s.Inv) (ht : t.Inv) (hty : s.capOpt = t.capOpt ∧ s.hashW = t.hashW)
    (hab : s.abs = t.abs) :
    (∀ o : Obs, o.Ok s.abs → Api.observe s o = Api.observe t o) ∧
    (∀ ops : List Op, OpsOk s.capOpt s.abs ops →
      match Api.run s ops, Api.run t ops with
      | .ok (s', os), .ok (t', ot) => s'.Inv ∧ t'.Inv ∧ s'.abs = t'.abs ∧ os = ot
      | .panic, .panic => True
      | _, _ => False) := by
  constructor
  · intro o ho
    rw [C03_observers s hs o ho, C03_observers t ht o (hab ▸ ho), hty.2, hab]
  · intro ops hok
    have a := C03_history ops s hs hok
    have b := C03_history ops t ht (by rw [← hty.1, ← hab]; exact hok)
    rw [← hty.1, ← hab] at b
    rcases a.cases with ⟨s', a', os, e1, e3, h1⟩ | ⟨e1, e3⟩ <;>
      rcases b.cases with ⟨t', b', ot, e2, e4, h2⟩ | ⟨e2, e4⟩
    · obtain ⟨rfl, rfl⟩ := Prod.mk.inj (Res.ok.inj (e3.symm.trans e4))
      rw [e1, e2]; exact ⟨h1.1, h2.1, h1.2.1.trans h2.2.1.symm, rfl⟩
    · cases e3.symm.trans e4
    · cases e3.symm.trans e4
    · rw [e1, e2]; trivial

/-- non-vacuity: a `Bv` holding 5 bits inline and a `Bv` holding the same 5 bits on the heap with spare capacity satisfy
`hs`, `ht` and `hab` of `C03_fresh` (`hty` is `⟨rfl, rfl⟩` for two `Bv`: no capacity bound, hash word 64) -/
example :
    (Vec.a (.fixed ⟨#[0x15#64, 0#64], 5⟩)).Inv ∧ (Vec.a (.dynamic ⟨#[0x15#64, 0#64, 0#64], 5⟩)).Inv ∧
    (Vec.a (.fixed ⟨#[0x15#64, 0#64], 5⟩)).abs = (Vec.a (.dynamic ⟨#[0x15#64, 0#64, 0#64], 5⟩)).abs :=
  ⟨⟨(Raw.invB_iff _ (by decide)).mp (by decide), rfl⟩, (Raw.invB_iff _ (by decide)).mp (by decide), by decide⟩

end Bva
