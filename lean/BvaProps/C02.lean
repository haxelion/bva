import BvaProofs.Api
/-!
# C02 — division and remainder are exact for every non-zero divisor; a zero divisor panics

`Api.divRemOp v x` models `/`, `%`, `/=`, `%=` in every form (all of them project `div_rem`; for a `Bv`
subject the operators dispatch on the storage variant and call the variant's `div_rem`);
`Api.divRem v x` models the public trait method `div_rem::<B>(&x)` (for a `Bv` subject: `Bv::div_rem`,
a third, separately written body).  The shift-subtract loop is proved to compute `⌊a/b⌋` and `a mod b`
(`BvaProofs/Div.lean`), for a divisor of any implementation, word width and length — including
longer than the dividend and longer than a fixed dividend's capacity (repair D1: the `expect` in
`Bvf::div_rem` is proved unreachable) — or a native integer.
-/
namespace Bva

/-- L0: for a non-zero divisor the quotient and remainder satisfy `q·b + r = a` and `r < b`,
have the dividend's length, and are well-formed. -/
theorem C02_spec_divrem (a x : BV) (ha : a.WF) (hx : x.val ≠ 0) :
    (a.div x).val * x.val + (a.rem x).val = a.val ∧ (a.rem x).val < x.val ∧
    (a.div x).len = a.len ∧ (a.rem x).len = a.len ∧ (a.div x).WF ∧ (a.rem x).WF := by
  unfold BV.div BV.rem BV.WF at *
  simp only
  have hpos : 0 < x.val := Nat.pos_of_ne_zero hx
  refine ⟨by rw [Nat.mul_comm]; exact Nat.div_add_mod a.val x.val, Nat.mod_lt _ hpos, trivial, trivial, ?_, ?_⟩
  · exact Nat.lt_of_le_of_lt (Nat.div_le_self _ _) ha
  · exact Nat.lt_of_le_of_lt (Nat.mod_le _ _) ha

/-- `/`, `%`, `/=`, `%=` — every implementation of the dividend, every kind of divisor:
a zero-valued (or empty) divisor panics, any other divisor yields exactly `⌊a/b⌋` and `a mod b` at the
dividend's type and length, with the storage invariant re-established. -/
theorem C02_operators (v : Vec) (x : Api.Rhs) (hv : v.Inv) (hx : x.Inv) :
    (x.spec.val = 0 → Api.divRemOp v x = .panic) ∧
    (x.spec.val ≠ 0 → ∃ q r, Api.divRemOp v x = .ok (q, r) ∧ q.Inv ∧ r.Inv ∧
        q.abs = v.abs.div x.spec ∧ r.abs = v.abs.rem x.spec ∧ q.ty = v.ty ∧ r.ty = v.ty) := by
  obtain ⟨hxa, hxe⟩ := Api.Rhs.any_ok v x hx
  exact hxe ▸ Api.divRemK_refines v hv x.kind (x.any v) hxa

/-- the public trait method `div_rem::<B>` with a divisor of any implementation `B` (including `B = Bv`). -/
theorem C02_div_rem (v x : Vec) (hv : v.Inv) (hx : x.Inv) :
    (x.abs.val = 0 → Api.divRem v x = .panic) ∧
    (x.abs.val ≠ 0 → ∃ q r, Api.divRem v x = .ok (q, r) ∧ q.Inv ∧ r.Inv ∧
        q.abs = v.abs.div x.abs ∧ r.abs = v.abs.rem x.abs) := by
  rw [← Vec.any_abs x]
  -- `Bvf` and `Bvd` subjects go through `divRemK`; a `Bv` subject has a third body
  have hK : (x.any.abs.val = 0 → Api.divRemK v x.kind x.any = .panic) ∧
      (x.any.abs.val ≠ 0 → ∃ q r, Api.divRemK v x.kind x.any = .ok (q, r) ∧ q.Inv ∧ r.Inv ∧
        q.abs = v.abs.div x.any.abs ∧ r.abs = v.abs.rem x.any.abs) :=
    let r := Api.divRemK_refines v hv x.kind x.any hx.any
    ⟨r.1, fun hn => let ⟨q, rr, e, hq, hr, aq, ar, _⟩ := r.2 hn; ⟨q, rr, e, hq, hr, aq, ar⟩⟩
  rcases v with _ | _ | b
  · exact hK
  · exact hK
  · have r := Bv.divRem_refines b x.kind x.any hv.bvinv hx.any.div (hx.any.compat wok64) hx.kind_bv
    refine ⟨fun h0 => congrArg (Res.map _) (r.1 h0), fun hn => ?_⟩
    obtain ⟨q, rr, e, hq, hr, aq, ar⟩ := r.2 hn
    exact ⟨.a q, .a rr, congrArg (Res.map _) e, Vec.inv_a.mpr hq, Vec.inv_a.mpr hr, aq, ar⟩

/-- defect D1's input: 200 / 3 on an 8-bit vector with a 64-bit divisor -/
example : (BV.div ⟨8, 200⟩ ⟨64, 3⟩, BV.rem ⟨8, 200⟩ ⟨64, 3⟩) = (⟨8, 66⟩, ⟨8, 2⟩) := by decide
example : (Vec.f 8 ⟨#[200#8], 8⟩ : Vec).Inv ∧ (Api.Rhs.uint 64 3).Inv ∧ (Api.Rhs.uint 64 3).spec.val ≠ 0 :=
  ⟨⟨wok8, (Raw.invB_iff _ (by decide)).mp (by decide)⟩, ⟨wok64, by decide, by decide⟩, by decide⟩

end Bva
