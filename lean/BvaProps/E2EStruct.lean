import BvaProps.Laws
import BvaProps.C07
import BvaProps.C08
import BvaProps.C09
import BvaProps.C10
import BvaProps.C11
import BvaProps.C12
import BvaProps.C13
import BvaProps.C15
import BvaProps.C17
/-!
# Compositions of `Api.*` calls (edits, conversions, bytes, formats, capacity, iteration) on any `Vec` with `Inv`
Infallible calls are rewritten by `simp only [e2e, …]` as in `E2EArith`; a fallible edit is opened by `EditOk.of_fits`
(`E2E_aux_push`, `E2E_aux_append`, `E2E_aux_signExtend` for the commonest).
-/
namespace Bva

attribute [e2e] C07_set C08_copy_range

-- `C07_pop` speaks of a pair; simp rewrites with the components
@[e2e]
theorem E2E_aux_pop (v : Vec) (hv : v.Inv) :
    (Api.pop v).1.Inv ∧ (Api.pop v).1.abs = v.abs.pop.1 ∧ (Api.pop v).2 = v.abs.pop.2 ∧ (Api.pop v).1.ty = v.ty :=
  have h := C07_pop v hv
  ⟨h.1, congrArg Prod.fst h.2.1, congrArg Prod.snd h.2.1, h.2.2⟩

@[e2e]
theorem E2E_aux_get (v : Vec) (hv : v.Inv) (i : Nat) : Api.get v i = v.abs.bit i := Api.get_eq_bit v hv.wpos i

@[e2e]
theorem E2E_aux_set_len (v : Vec) (hv : v.Inv) (i : Nat) (b : Bool) (hi : i < v.len) :
    (Api.set v i b).len = v.len := by
  rw [Vec.len_of_abs (C07_set v hv i b hi).2.1]; exact Vec.abs_len v

@[e2e]
theorem E2E_aux_copyRange_len (v : Vec) (hv : v.Inv) (s e : Nat) (hse : s ≤ e) (he : e ≤ v.len) :
    (Api.copyRange v s e).len = e - s :=
  Vec.len_of_abs (C08_copy_range v hv s e hse he).2.1

/-- what an operation that refines the unchanged bits keeps (the capacity operations) -/
theorem E2E_aux_of_refines_abs {v v' : Vec} (r : v.Refines v' v.abs) : v'.Inv ∧ v'.abs = v.abs ∧ v'.ty = v.ty ∧ v'.len = v.len :=
  ⟨r.1, r.2.1, r.2.2, (Vec.len_of_abs r.2.1).trans (Vec.abs_len v)⟩

@[e2e]
theorem E2E_aux_reserve (v : Vec) (hv : v.Inv) (k : Nat) :
    (Api.reserve v k).Inv ∧ (Api.reserve v k).abs = v.abs ∧ (Api.reserve v k).ty = v.ty ∧ (Api.reserve v k).len = v.len :=
  E2E_aux_of_refines_abs (Api.reserve_refines v hv k)

@[e2e]
theorem E2E_aux_shrink (v : Vec) (hv : v.Inv) :
    (Api.shrinkToFit v).Inv ∧ (Api.shrinkToFit v).abs = v.abs ∧ (Api.shrinkToFit v).ty = v.ty ∧ (Api.shrinkToFit v).len = v.len :=
  E2E_aux_of_refines_abs (Api.shrinkToFit_refines v hv)

/-- what has the type of `v` has room for the length of `v` -/
theorem E2E_aux_fits_len {v r : Vec} (hv : v.Inv) (ht : r.ty = v.ty) : r.fits v.len := (Vec.fits_of_ty ht _).mpr hv.fits_len

theorem E2E_aux_push (v : Vec) (hv : v.Inv) (b : Bool) (hfit : v.fits (v.len + 1)) :
    ∃ r, Api.push v b = .ok r ∧ r.Inv ∧ r.abs = v.abs.push b ∧ r.ty = v.ty ∧ r.len = v.len + 1 :=
  (C07_push v hv b).of_fits (by rw [BV.push_len, Vec.abs_len]) hfit

theorem E2E_aux_append (v x : Vec) (hv : v.Inv) (hx : x.Inv) (hfit : v.fits (v.len + x.len)) :
    ∃ r, Api.append v x.any = .ok r ∧ r.Inv ∧ r.abs = v.abs.append x.abs ∧ r.ty = v.ty ∧ r.len = v.len + x.len :=
  (C07_append v x hv hx).of_fits (by rw [BV.append_len, Vec.abs_len, Vec.abs_len]) hfit

-- one sample vector per implementation, for the non-vacuity examples
theorem E2E_ex_f : (Vec.f 8 ⟨#[0x15#8, 0#8], 5⟩ : Vec).Inv := ⟨wok8, (Raw.invB_iff _ (by decide)).mp (by decide)⟩
theorem E2E_ex_d : (Vec.d ⟨#[0x2D#64], 7⟩ : Vec).Inv := (Raw.invB_iff _ (by decide)).mp (by decide)
theorem E2E_ex_a : (Vec.a (.fixed ⟨#[0x1D#64, 0#64], 6⟩) : Vec).Inv := ⟨(Raw.invB_iff _ (by decide)).mp (by decide), rfl⟩

/-- the word width of a fixed type is one of 8, 16, 32, … (nothing to check for the other types) -/
def E2E_TyOk (t : Ty) : Prop := match t with | .f w _ => WOk w | _ => True
/-- a length fits the capacity of a type -/
def E2E_TyFits (t : Ty) (n : Nat) : Prop := match t with | .f w N => n ≤ N * w | _ => True

/-- `push(b)` then `pop()` gives back the original vector and `Some(b)` (whenever the push fits) -/
theorem E2E_push_pop (v : Vec) (hv : v.Inv) (b : Bool) (hfit : v.fits (v.len + 1)) :
    ∃ r, Api.push v b = .ok r ∧ r.Inv ∧ (Api.pop r).1.Inv ∧ (Api.pop r).1.abs = v.abs ∧ (Api.pop r).2 = some b ∧
      (Api.pop r).1.ty = v.ty := by
  obtain ⟨r, e, hr, ha, ht, _⟩ := E2E_aux_push v hv b hfit
  refine ⟨r, e, hr, ?_⟩
  simp only [e2e, hr, ha, ht, Law_push_pop v.abs b (Vec.abs_wf hv), and_self]

/-- `pop()` then `push` of the popped bit gives back the original non-empty vector (it always fits) -/
theorem E2E_pop_push (v : Vec) (hv : v.Inv) (hl : 0 < v.len) :
    ∃ b r, (Api.pop v).2 = some b ∧ Api.push (Api.pop v).1 b = .ok r ∧ r.Inv ∧ r.abs = v.abs ∧ r.ty = v.ty := by
  obtain ⟨hp, e1, e2, ht⟩ := E2E_aux_pop v hv
  obtain ⟨b, h1, h2⟩ := Law_pop_push v.abs (Vec.abs_wf hv) (Vec.abs_len v ▸ hl)
  have hpush := C07_push (Api.pop v).1 hp b
  rw [e1, h2] at hpush
  obtain ⟨r, e, hr, ha, ht', _⟩ := hpush.of_fits (Vec.abs_len v) (E2E_aux_fits_len hv ht)
  exact ⟨b, r, e2.trans h1, e, hr, ha, ht'.trans ht⟩

example := E2E_push_pop _ E2E_ex_f true (by show 5 + 1 ≤ 2 * 8; decide)
example := E2E_pop_push _ E2E_ex_a (by decide)

/-- `append(x)` (`x` of any implementation) then `split_off(old length)` gives back the original vector and `x`'s bits -/
theorem E2E_append_split_off (v x : Vec) (hv : v.Inv) (hx : x.Inv) (hfit : v.fits (v.len + x.len)) :
    ∃ r lo hi, Api.append v x.any = .ok r ∧ r.Inv ∧ Api.splitOff r v.len = .ok (lo, hi) ∧ lo.Inv ∧ hi.Inv ∧
      lo.abs = v.abs ∧ hi.abs = x.abs ∧ lo.ty = v.ty ∧ hi.ty = v.ty := by
  obtain ⟨r, e, hr, ha, ht, hrl⟩ := E2E_aux_append v x hv hx hfit
  obtain ⟨lo, hi, e2, hlo, hhi, hab, hlt, hht⟩ := C07_split_off r hr v.len (hrl ▸ Nat.le_add_right ..)
  rw [ha, ← Vec.abs_len v, Law_append_split v.abs x.abs (Vec.abs_wf hv) (Vec.abs_wf hx)] at hab
  obtain ⟨h1, h2⟩ := Prod.mk.inj hab
  exact ⟨r, lo, hi, e, hr, e2, hlo, hhi, h1, h2, hlt.trans ht, hht.trans ht⟩

/-- `split_off(i)` then `append` of the split-off part gives back the original vector -/
theorem E2E_split_off_append (v : Vec) (hv : v.Inv) (i : Nat) (hi : i ≤ v.len) :
    ∃ lo hi' r, Api.splitOff v i = .ok (lo, hi') ∧ Api.append lo hi'.any = .ok r ∧ r.Inv ∧ r.abs = v.abs ∧ r.ty = v.ty := by
  obtain ⟨lo, hi', e, hlo, hhi, hab, hlt, hht⟩ := C07_split_off v hv i hi
  have hlaw := Law_split_append v.abs i (Vec.abs_wf hv) (Vec.abs_len v ▸ hi)
  rw [← hab] at hlaw
  have happ := C07_append lo hi' hlo hhi
  rw [show lo.abs.append hi'.abs = v.abs from hlaw] at happ
  obtain ⟨r, e2, hr, ha, ht, _⟩ := happ.of_fits (Vec.abs_len v) (E2E_aux_fits_len hv hlt)
  exact ⟨lo, hi', r, e, e2, hr, ha, ht.trans hlt⟩

/-- `resize` up to `m` (with any fill bit) then `resize` back down to the old length gives back the original -/
theorem E2E_resize_up_down (v : Vec) (hv : v.Inv) (m : Nat) (b c : Bool) (hm : v.len ≤ m) (hfit : v.fits m) :
    ∃ r r', Api.resize v m b = .ok r ∧ r.Inv ∧ Api.resize r v.len c = .ok r' ∧ r'.Inv ∧ r'.abs = v.abs ∧ r'.ty = v.ty := by
  obtain ⟨r, e, hr, ha, ht, _⟩ := (C07_resize v hv m b).of_fits (BV.resize_len _ _ _) hfit
  have h2 := C07_resize r hr v.len c
  rw [ha, ← Vec.abs_len v, Law_resize_resize_grow_shrink v.abs m b c (Vec.abs_wf hv) (Vec.abs_len v ▸ hm)] at h2
  obtain ⟨r', e', hr', ha', ht', _⟩ := h2.of_fits rfl (Vec.abs_len v ▸ E2E_aux_fits_len hv ht)
  exact ⟨r, r', e, hr, Vec.abs_len v ▸ e', hr', ha', ht'.trans ht⟩

/-- `sign_extend(m)` succeeds whenever `m` bits fit: its result is `m` bits long or as long as `v` -/
theorem E2E_aux_signExtend (v : Vec) (hv : v.Inv) (m : Nat) (hfit : v.fits m) :
    ∃ r, Api.signExtend v m = .ok r ∧ r.Inv ∧ r.abs = v.abs.signExtend m ∧ r.ty = v.ty := by
  refine (C07_sign_extend v hv m).1 ?_
  unfold BV.signExtend
  split
  · rw [BV.resize_len]; exact hfit
  · rw [Vec.abs_len]; exact hv.fits_len

/-- `sign_extend(m)` then `truncate(old length)` gives back the original vector -/
theorem E2E_sign_extend_truncate (v : Vec) (hv : v.Inv) (m : Nat) (hfit : v.fits m) :
    ∃ r r', Api.signExtend v m = .ok r ∧ r.Inv ∧ Api.truncate r v.len = .ok r' ∧ r'.Inv ∧ r'.abs = v.abs ∧ r'.ty = v.ty := by
  obtain ⟨r, e, hr, ha, ht⟩ := E2E_aux_signExtend v hv m hfit
  obtain ⟨r', e', hr', ha', ht'⟩ := C07_truncate r hr v.len
  rw [ha, ← Vec.abs_len v, BV.signExtend_truncate v.abs (Vec.abs_wf hv) m] at ha'
  exact ⟨r, r', e, hr, e', hr', ha', ht'.trans ht⟩

example := E2E_append_split_off _ _ E2E_ex_d E2E_ex_f trivial
example := E2E_append_split_off _ _ E2E_ex_f E2E_ex_d (by show 5 + 7 ≤ 2 * 8; decide)
example := E2E_resize_up_down _ E2E_ex_f 13 true false (by decide) (by show 13 ≤ 2 * 8; decide)
example := E2E_sign_extend_truncate _ E2E_ex_a 100 trivial

/-- `v.prepend(x)` and `x.append(v)` build the same bits, whatever the two implementations -/
theorem E2E_prepend_eq_append (v x : Vec) (hv : v.Inv) (hx : x.Inv) (hfv : v.fits (v.len + x.len))
    (hfx : x.fits (x.len + v.len)) :
    ∃ r r', Api.prepend v x.any = .ok r ∧ Api.append x v.any = .ok r' ∧ r.Inv ∧ r'.Inv ∧ r.abs = r'.abs ∧
      r.ty = v.ty ∧ r'.ty = x.ty := by
  have hp := C07_prepend v x hv hx
  rw [Law_prepend_append] at hp
  obtain ⟨r, e, hr, ha, ht, _⟩ := hp.of_fits (by rw [BV.append_len, Vec.abs_len, Vec.abs_len, Nat.add_comm]) hfv
  obtain ⟨r', e', hr', ha', ht', _⟩ := E2E_aux_append x v hx hv hfx
  exact ⟨r, r', e, e', hr, hr', ha.trans ha'.symm, ht, ht'⟩

/-- `insert(len, x)` is `append(x)` -/
theorem E2E_insert_end_eq_append (v x : Vec) (hv : v.Inv) (hx : x.Inv) (hfit : v.fits (v.len + x.len)) :
    ∃ r r', Api.insert v v.len x.any = .ok r ∧ Api.append v x.any = .ok r' ∧ r.Inv ∧ r.abs = r'.abs := by
  obtain ⟨r, e, hr, ha, _⟩ := (C07_insert v x hv hx v.len (Nat.le_refl _)).of_fits
    (by rw [BV.insert_len, Vec.abs_len, Vec.abs_len]) hfit
  obtain ⟨r', e', _, ha', _⟩ := E2E_aux_append v x hv hx hfit
  exact ⟨r, r', e, e', hr, by rw [ha, ha', ← Vec.abs_len v, Law_insert_len _ _ (Vec.abs_wf hv)]⟩

/-- `insert(i, x)` builds `lo ++ x ++ hi`, where `(lo, hi)` is what `split_off(i)` makes of the original vector -/
theorem E2E_insert_abs (v x : Vec) (hv : v.Inv) (hx : x.Inv) (i : Nat) (hi : i ≤ v.len) (hfit : v.fits (v.len + x.len)) :
    ∃ r lo hi', Api.insert v i x.any = .ok r ∧ r.Inv ∧ Api.splitOff v i = .ok (lo, hi') ∧
      r.abs = (lo.abs.append x.abs).append hi'.abs := by
  obtain ⟨r, e, hr, ha, _⟩ := (C07_insert v x hv hx i hi).of_fits (by rw [BV.insert_len, Vec.abs_len, Vec.abs_len]) hfit
  obtain ⟨lo, hi', e2, _, _, hab, _, _⟩ := C07_split_off v hv i hi
  refine ⟨r, lo, hi', e, hr, e2, ?_⟩
  rw [ha, Law_insert_split _ _ _ (Vec.abs_wf hv) (Vec.abs_len v ▸ hi), ← hab]

/-- appending is associative across implementations: `(v ++ x) ++ y` and `v ++ (x ++ y)` have the same bits -/
theorem E2E_append_assoc (v x y : Vec) (hv : v.Inv) (hx : x.Inv) (hy : y.Inv)
    (hfv : v.fits (v.len + x.len + y.len)) (hfx : x.fits (x.len + y.len)) :
    ∃ r1 r2 s1 s2, Api.append v x.any = .ok r1 ∧ Api.append r1 y.any = .ok r2 ∧
      Api.append x y.any = .ok s1 ∧ Api.append v s1.any = .ok s2 ∧ r2.Inv ∧ s2.Inv ∧ r2.abs = s2.abs := by
  obtain ⟨r1, e1, hr1, ha1, ht1, hr1l⟩ := E2E_aux_append v x hv hx (Vec.fits_mono (Nat.le_add_right _ _) hfv)
  obtain ⟨r2, e2, hr2, ha2, _⟩ := E2E_aux_append r1 y hr1 hy (hr1l ▸ (Vec.fits_of_ty ht1 _).mpr hfv)
  obtain ⟨s1, f1, hs1, hb1, _, hs1l⟩ := E2E_aux_append x y hx hy hfx
  obtain ⟨s2, f2, hs2, hb2, _⟩ := E2E_aux_append v s1 hv hs1 (by rw [hs1l, ← Nat.add_assoc]; exact hfv)
  exact ⟨r1, r2, s1, s2, e1, e2, f1, f2, hr2, hs2, by rw [ha2, ha1, hb2, hb1, Law_append_assoc]⟩

/-- `extend(bits)` is `append` of the vector collected (into any implementation type) from the same bits -/
theorem E2E_extend_eq_append_collect (v : Vec) (hv : v.Inv) (bs : List Bool) (t : Ty) (ht : E2E_TyOk t)
    (hft : E2E_TyFits t bs.length) (hfit : v.fits (v.len + bs.length)) (hint : Nat) :
    ∃ r c r', Api.extend v bs = .ok r ∧ Api.collect t bs hint = .ok c ∧ Api.append v c.any = .ok r' ∧
      r.Inv ∧ r'.Inv ∧ r.abs = r'.abs := by
  obtain ⟨r, e, hr, ha, _⟩ := (C07_extend v hv bs).of_fits (by rw [BV.extend_len, Vec.abs_len]) hfit
  obtain ⟨c, ec, hc, hca, _⟩ := C07_collect t ht bs hint (by cases t <;> exact hft)
  obtain ⟨r', e', hr', ha', _⟩ := E2E_aux_append v c hv hc (by rw [Vec.len_of_abs hca, BV.ofBits_len]; exact hfit)
  exact ⟨r, c, r', e, ec, e', hr, hr', by rw [ha, ha', hca, Law_extend_eq_append _ _ (Vec.abs_wf hv)]⟩

example := E2E_prepend_eq_append _ _ E2E_ex_f E2E_ex_a (by show 5 + 6 ≤ 2 * 8; decide) trivial

/-- `truncate(m)` twice is `truncate(m)` once -/
theorem E2E_truncate_idem (v : Vec) (hv : v.Inv) (m : Nat) :
    ∃ r r', Api.truncate v m = .ok r ∧ Api.truncate r m = .ok r' ∧ r'.Inv ∧ r'.abs = r.abs := by
  obtain ⟨r, e, hr, ha, _⟩ := C07_truncate v hv m
  obtain ⟨r', e', hr', ha', _⟩ := C07_truncate r hr m
  exact ⟨r, r', e, e', hr', by rw [ha', ha, Law_truncate_idem]⟩

/-- `sign_extend(m)` twice is `sign_extend(m)` once -/
theorem E2E_sign_extend_idem (v : Vec) (hv : v.Inv) (m : Nat) (hfit : v.fits m) :
    ∃ r r', Api.signExtend v m = .ok r ∧ Api.signExtend r m = .ok r' ∧ r'.Inv ∧ r'.abs = r.abs := by
  obtain ⟨r, e, hr, ha, ht⟩ := E2E_aux_signExtend v hv m hfit
  obtain ⟨r', e', hr', ha', _⟩ := E2E_aux_signExtend r hr m ((Vec.fits_of_ty ht _).mpr hfit)
  exact ⟨r, r', e, e', hr', by rw [ha', ha, Law_signExtend_idem]⟩

/-- after `push(b)`, `last()` is `Some(b)` and the length has grown by one -/
theorem E2E_push_last (v : Vec) (hv : v.Inv) (b : Bool) (hfit : v.fits (v.len + 1)) :
    ∃ r, Api.push v b = .ok r ∧ r.Inv ∧ r.len = v.len + 1 ∧ Api.last r = some b := by
  obtain ⟨r, e, hr, ha, _, hrl⟩ := E2E_aux_push v hv b hfit
  refine ⟨r, e, hr, hrl, ?_⟩
  rw [(C08_first_last r hr).2.1, ha]
  -- `BV.last a` is by definition the bit that `BV.pop a` returns
  exact congrArg Prod.snd (Law_push_pop v.abs b (Vec.abs_wf hv))

example := E2E_push_last _ E2E_ex_a false trivial

theorem E2E_set_get (v : Vec) (hv : v.Inv) (i : Nat) (b : Bool) (hi : i < v.len) :
    (Api.set v i b).Inv ∧ Api.get (Api.set v i b) i = b ∧ ∀ j, j ≠ i → Api.get (Api.set v i b) j = Api.get v j := by
  simp only [e2e, hv, hi, true_and]
  exact Law_set_get v.abs i b

theorem E2E_set_set (v : Vec) (hv : v.Inv) (i : Nat) (b c : Bool) (hi : i < v.len) :
    (Api.set (Api.set v i b) i c).Inv ∧ (Api.set (Api.set v i b) i c).abs = (Api.set v i c).abs := by
  simp only [e2e, hv, hi, Law_set_set, and_self]

theorem E2E_set_comm (v : Vec) (hv : v.Inv) (i j : Nat) (b c : Bool) (hi : i < v.len) (hj : j < v.len) (hij : i ≠ j) :
    (Api.set (Api.set v i b) j c).abs = (Api.set (Api.set v j c) i b).abs := by
  simp only [e2e, hv, hi, hj, Law_set_comm _ _ _ _ _ hij]

theorem E2E_set_same (v : Vec) (hv : v.Inv) (i : Nat) (hi : i < v.len) :
    (Api.set v i (Api.get v i)).abs = v.abs := by
  simp only [e2e, hv, hi, Law_set_same]

/-- after `append(x)`, `copy_range(0..old length)` is the original vector and `copy_range(old length..len)` is `x` -/
theorem E2E_append_copy_range (v x : Vec) (hv : v.Inv) (hx : x.Inv) (hfit : v.fits (v.len + x.len)) :
    ∃ r, Api.append v x.any = .ok r ∧ r.Inv ∧ r.len = v.len + x.len ∧
      (Api.copyRange r 0 v.len).Inv ∧ (Api.copyRange r 0 v.len).abs = v.abs ∧
      (Api.copyRange r v.len r.len).Inv ∧ (Api.copyRange r v.len r.len).abs = x.abs := by
  obtain ⟨r, e, hr, ha, ht, hrl⟩ := E2E_aux_append v x hv hx hfit
  refine ⟨r, e, hr, hrl, ?_⟩
  have h1 : v.len ≤ r.len := hrl ▸ Nat.le_add_right ..
  simp only [e2e, hr, h1, Nat.zero_le, Nat.le_refl, ha, true_and]
  rw [hrl, ← Vec.abs_len v, ← Vec.abs_len x]
  exact ⟨BV.copyRange_append_low _ _ (Vec.abs_wf hv) (Vec.abs_wf hx), BV.copyRange_append_high _ _ (Vec.abs_wf hv) (Vec.abs_wf hx)⟩

theorem E2E_copy_range_copy_range (v : Vec) (hv : v.Inv) (s e s' e' : Nat) (hse : s ≤ e) (he : e ≤ v.len)
    (hse' : s' ≤ e') (he' : e' ≤ e - s) :
    (Api.copyRange (Api.copyRange v s e) s' e').Inv ∧
    (Api.copyRange (Api.copyRange v s e) s' e').abs = (Api.copyRange v (s + s') (s + e')).abs := by
  have h1 : s + s' ≤ s + e' := Nat.add_le_add_left hse' s
  have h2 : s + e' ≤ v.len := Nat.le_trans (Nat.add_le_of_le_sub' hse he') he
  simp only [e2e, hv, hse, he, hse', he', h1, h2, Law_copyRange_copyRange _ _ _ _ _ he', and_self]

theorem E2E_copy_range_full (v : Vec) (hv : v.Inv) :
    (Api.copyRange v 0 v.len).Inv ∧ (Api.copyRange v 0 v.len).abs = v.abs := by
  simp only [e2e, hv, Nat.zero_le, Nat.le_refl, true_and]
  rw [← Vec.abs_len v]; exact Law_copyRange_full _ (Vec.abs_wf hv)

example := E2E_set_get _ E2E_ex_f 3 true (by decide)
example : Api.get (Api.set (.f 8 ⟨#[0x15#8, 0#8], 5⟩) 3 true) 3 = true := by decide
example := E2E_append_copy_range _ _ E2E_ex_f E2E_ex_a (by show 5 + 6 ≤ 2 * 8; decide)

/-- the success case of `C12_convert`, uniform in the target type -/
theorem E2E_aux_convert (t : Ty) (src : Vec) (hs : src.Inv) (ht : E2E_TyOk t) (hfit : E2E_TyFits t src.len) :
    ∃ r, Api.convert t src = .ok r ∧ r.Inv ∧ r.abs = src.abs ∧ r.ty = t := by
  have c := C12_convert t src hs ht
  cases t with
  | f w N => exact c.2 hfit
  | d => exact c
  | a => exact c

theorem E2E_aux_own_ty (v : Vec) (hv : v.Inv) : E2E_TyOk v.ty ∧ E2E_TyFits v.ty v.len := by
  cases v with
  | f w s => exact ⟨hv.1, hv.2.1⟩
  | d s => exact ⟨trivial, trivial⟩
  | a c => exact ⟨trivial, trivial⟩

/-- converting to any implementation (that has room) and back to the original type always succeeds and keeps `abs` -/
theorem E2E_convert_roundtrip (t : Ty) (v : Vec) (hv : v.Inv) (ht : E2E_TyOk t) (hfit : E2E_TyFits t v.len) :
    ∃ r r', Api.convert t v = .ok r ∧ r.Inv ∧ r.ty = t ∧ Api.convert v.ty r = .ok r' ∧ r'.Inv ∧ r'.abs = v.abs ∧
      r'.ty = v.ty := by
  obtain ⟨r, e, hr, ha, hty⟩ := E2E_aux_convert t v hv ht hfit
  obtain ⟨r', e', hr', ha', hty'⟩ := E2E_aux_convert v.ty r hr (E2E_aux_own_ty v hv).1
    (by rw [Vec.len_of_abs ha, Vec.abs_len]; exact (E2E_aux_own_ty v hv).2)
  exact ⟨r, r', e, hr, hty, e', hr', ha'.trans ha, hty'⟩

/-- a chain of two conversions keeps `abs` (whatever the intermediate implementation) -/
theorem E2E_convert_convert (t t' : Ty) (v r r' : Vec) (hv : v.Inv) (ht : E2E_TyOk t) (ht' : E2E_TyOk t')
    (h : Api.convert t v = .ok r) (h' : Api.convert t' r = .ok r') : r'.Inv ∧ r'.abs = v.abs ∧ r'.ty = t' := by
  obtain ⟨hr, ha, _⟩ := Api.convert_ok t v r hv ht h
  obtain ⟨hr', ha', hty'⟩ := Api.convert_ok t' r r' hr ht' h'
  exact ⟨hr', ha'.trans ha, hty'⟩

theorem E2E_aux_eq_of_val (a b : Vec) (ha : a.Inv) (hb : b.Inv) (h : b.abs.val = a.abs.val) :
    Api.eq a b = true ∧ Api.cmp a b = .eq := by
  have n := C09_numeric a b ha hb
  rw [h] at n
  exact ⟨n.1.trans (decide_eq_true rfl), n.2.trans (Nat.compare_eq_eq.mpr rfl)⟩

/-- a converted vector compares equal to the original, in both operand orders, across implementations -/
theorem E2E_convert_eq (t : Ty) (v r : Vec) (hv : v.Inv) (ht : E2E_TyOk t) (h : Api.convert t v = .ok r) :
    Api.eq v r = true ∧ Api.eq r v = true ∧ Api.cmp v r = .eq ∧ Api.cmp r v = .eq := by
  obtain ⟨hr, ha, _⟩ := Api.convert_ok t v r hv ht h
  have n1 := E2E_aux_eq_of_val v r hv hr (congrArg BV.val ha)
  have n2 := E2E_aux_eq_of_val r v hr hv (congrArg BV.val ha.symm)
  exact ⟨n1.1, n2.1, n1.2, n2.2⟩

/-- `==` implies `cmp = Equal` implies equal hash streams, for two vectors of the same type family
(same fixed word width, both dynamic, or both auto — whatever their lengths, capacities and storage modes) -/
theorem E2E_eq_cmp_hash (a b : Vec)
    (hty : match a, b with
      | .f w _, .f w' _ => w = w'
      | .d _, .d _ => True
      | .a _, .a _ => True
      | _, _ => False)
    (ha : a.Inv) (hb : b.Inv)
    (h : Api.eq a b = true) : Api.cmp a b = .eq ∧ Api.hashStream a = Api.hashStream b := by
  have hv : a.abs.val = b.abs.val := of_decide_eq_true ((C09_numeric a b ha hb).1.symm.trans h)
  refine ⟨(E2E_aux_eq_of_val a b ha hb hv.symm).2, C10_hash a b ha hb hv ?_⟩
  cases a <;> cases b <;> exact hty

theorem E2E_aux_hash_same_ty (a b : Vec) (ha : a.Inv) (hb : b.Inv) (heq : a.abs.val = b.abs.val) (hty : a.ty = b.ty) :
    Api.hashStream a = Api.hashStream b := by
  apply C10_hash a b ha hb heq
  rcases a with ⟨w, s⟩ | s | s <;> rcases b with ⟨w', t⟩ | t | t
  case f.f => exact (Ty.f.inj hty).1
  case d.d => trivial
  case a.a => trivial
  all_goals cases hty

/-- converting to another implementation and back gives a vector with the same hash stream as the original -/
theorem E2E_convert_roundtrip_hash (t : Ty) (v r r' : Vec) (hv : v.Inv) (ht : E2E_TyOk t)
    (h : Api.convert t v = .ok r) (h' : Api.convert v.ty r = .ok r') : Api.hashStream r' = Api.hashStream v := by
  obtain ⟨hr', ha', hty'⟩ := E2E_convert_convert t v.ty v r r' hv ht (E2E_aux_own_ty v hv).1 h h'
  exact E2E_aux_hash_same_ty r' v hr' hv (congrArg BV.val ha') hty'

/-- `to_uint` after a conversion gives the same answer (value or `NotEnoughCapacity`) as on the original -/
theorem E2E_convert_to_uint (t : Ty) (v r : Vec) (hv : v.Inv) (ht : E2E_TyOk t) (h : Api.convert t v = .ok r)
    (W : Nat) (hW : WOk W) : Api.toUInt r W = Api.toUInt v W := by
  obtain ⟨hr, ha, _⟩ := Api.convert_ok t v r hv ht h
  rw [C11_to_uint r hr W hW, C11_to_uint v hv W hW, ha]

/-- integer → vector of type `t` → vector of type `t'` → integer is the identity -/
theorem E2E_uint_convert_roundtrip (t t' : Ty) (W x : Nat) (hW : WOk W) (h128 : W ≤ 128) (hx : x < 2 ^ W)
    (ht : match t with | .f w N => WOk w ∧ 1 ≤ N | _ => True) (ht' : E2E_TyOk t') (r r' : Vec)
    (hr : Api.fromUInt t W x = .ok r) (hr' : Api.convert t' r = .ok r') : Api.toUInt r' W = .ok x := by
  have hri := (Api.fromUInt_ok t W x hW h128 hx ht r hr).1
  rw [E2E_convert_to_uint t' r r' hri ht' hr' W hW]
  exact C11_roundtrip t W x hW h128 hx ht r hr

example := E2E_convert_roundtrip (.f 16 1) _ E2E_ex_d ⟨1, by decide⟩ (by show 7 ≤ 1 * 16; decide)
example := E2E_eq_cmp_hash (.d ⟨#[0x2D#64], 7⟩) (.d ⟨#[0x2D#64, 0#64], 70⟩) trivial E2E_ex_d
  ((Raw.invB_iff _ (by decide)).mp (by decide))

/-- `to_vec(e)` then `read(.., len, e)` into any type that has room gives back `abs` and consumes exactly the bytes
written, whatever follows them in the input -/
theorem E2E_to_vec_read (v : Vec) (hv : v.Inv) (t : Ty) (ht : E2E_TyOk t) (hfit : E2E_TyFits t v.len) (big : Bool)
    (rest : List Nat) (hrest : ∀ b ∈ rest, b < 256) :
    ∃ r, Api.read t (Api.toVec v big ++ rest) v.len big = .ok (r, rest) ∧ r.Inv ∧ r.abs = v.abs ∧ r.ty = t := by
  obtain ⟨e0, hlen, hlt⟩ := C13_to_vec v hv big
  rw [e0]
  -- `cases t`: the `Cxx` statements spell the capacity condition out per type, `E2E_TyFits` is its uniform form
  have rd := (C13_read t (v.abs.toVec big ++ rest) v.len big
    (fun b hb => (List.mem_append.mp hb).elim (hlt b) (hrest b)) ht).2 (by cases t <;> exact hfit)
  obtain ⟨r, e, hr, ha, hty⟩ := rd.2 (by rw [List.length_append, hlen]; exact Nat.le_add_right ..)
  rw [← hlen, List.drop_left] at e
  rw [← hlen, List.take_left, ← Vec.abs_len v, (C13_roundtrip v.abs (Vec.abs_wf hv) big).2] at ha
  exact ⟨r, e, hr, ha, hty⟩

/-- `to_vec(e)` then `from_bytes(.., e)` into any type that has room gives `abs` zero-extended to whole bytes, and a
following `truncate(len)` gives back `abs` -/
theorem E2E_to_vec_from_bytes (v : Vec) (hv : v.Inv) (t : Ty) (ht : E2E_TyOk t) (big : Bool)
    (hfit : E2E_TyFits t ((v.len + 7) / 8 * 8)) :
    ∃ r r', Api.fromBytes t (Api.toVec v big) big = .ok r ∧ r.Inv ∧ r.abs = ⟨8 * ((v.len + 7) / 8), v.abs.val⟩ ∧
      Api.truncate r v.len = .ok r' ∧ r'.Inv ∧ r'.abs = v.abs ∧ r'.ty = t := by
  obtain ⟨e0, hlen, hlt⟩ := C13_to_vec v hv big
  rw [e0]
  have fb := C13_from_bytes t (v.abs.toVec big) big hlt ht
  obtain ⟨r, e, hr, ha, hty⟩ : ∃ r, Api.fromBytes t (v.abs.toVec big) big = .ok r ∧ r.Inv ∧
      r.abs = BV.fromBytes (v.abs.toVec big) big ∧ r.ty = t := by
    cases t with
    | f w N => exact fb.2 (by rw [hlen]; exact hfit)
    | d => exact fb
    | a => exact fb
  obtain ⟨r', e', hr', ha', hty'⟩ := C07_truncate r hr v.len
  refine ⟨r, r', e, hr, ?_, e', hr', ?_, hty'.trans hty⟩
  · rw [ha, (C13_roundtrip v.abs (Vec.abs_wf hv) big).1, Vec.abs_len]
  · rw [ha', ha, ← Vec.abs_len v]; exact Law_toVec_roundtrip v.abs big (Vec.abs_wf hv)

example := E2E_to_vec_read _ E2E_ex_f (.f 16 1) ⟨1, by decide⟩ (by show 5 ≤ 1 * 16; decide) true [0xAB] (by decide)
example := E2E_to_vec_from_bytes _ E2E_ex_d (.f 8 1) wok8 false (by show (7 + 7) / 8 * 8 ≤ 1 * 8; decide)

/-- a vector and its conversion to another implementation write the same bytes with `to_vec` -/
theorem E2E_convert_to_vec (t : Ty) (v r : Vec) (hv : v.Inv) (ht : E2E_TyOk t) (h : Api.convert t v = .ok r)
    (big : Bool) : Api.toVec r big = Api.toVec v big := by
  obtain ⟨hr, ha, _⟩ := Api.convert_ok t v r hv ht h
  rw [(C13_to_vec r hr big).1, (C13_to_vec v hv big).1, ha]

/-- big-endian `to_vec` is the reverse of little-endian `to_vec`, for every implementation -/
theorem E2E_to_vec_endianness (v : Vec) (hv : v.Inv) : Api.toVec v true = (Api.toVec v false).reverse := by
  rw [(C13_to_vec v hv true).1, (C13_to_vec v hv false).1]; exact Law_toVec_reverse _

/-- parsing the `{:b}` output of any vector into *any* implementation type whose capacity holds the digit string
(always, for the dynamic and auto types) succeeds and yields a vector that compares equal to the original -/
theorem E2E_binary_roundtrip (v : Vec) (hv : v.Inv) (t : Ty) (ht : E2E_TyOk t)
    (hfit : E2E_TyFits t (Api.digits v 'b').length) :
    ∃ r, Api.fromBinary t (Api.digits v 'b') = .ok r ∧ r.Inv ∧ r.abs.val = v.abs.val ∧ r.ty = t ∧
      r.len = (Api.digits v 'b').length ∧ Api.eq v r = true ∧ Api.cmp v r = .eq := by
  obtain ⟨hgood, hnum⟩ := digitsVal_numeral 2 false Bvf.binVal (by decide) (by decide) binVal_digitChar v.abs.val
  rw [(C14_digits v hv).1] at hfit ⊢
  obtain ⟨r, e, hi, ha, hty⟩ := ((C15_from_binary t (BV.numeral 2 false v.abs.val) ht).2 (by cases t <;> exact hfit)).2 hgood
  have hval := (congrArg BV.val ha).trans hnum
  have n := E2E_aux_eq_of_val v r hv hi hval
  exact ⟨r, e, hi, hval, hty, Vec.len_of_abs ha, n.1, n.2⟩

/-- parsing the `{:x}` or `{:X}` output with `from_hex` into any implementation type that holds four bits per digit yields a
vector that compares equal to the original -/
theorem E2E_hex_roundtrip (v : Vec) (hv : v.Inv) (t : Ty) (ht : E2E_TyOk t) (upper : Bool)
    (hfit : E2E_TyFits t ((Api.digits v (if upper then 'X' else 'x')).length * 4)) :
    ∃ r, Api.fromHex t (Api.digits v (if upper then 'X' else 'x')) = .ok r ∧ r.Inv ∧ r.abs.val = v.abs.val ∧ r.ty = t ∧
      r.len = (Api.digits v (if upper then 'X' else 'x')).length * 4 ∧ Api.eq v r = true ∧ Api.cmp v r = .eq := by
  have hd : Api.digits v (if upper then 'X' else 'x') = BV.numeral 16 upper v.abs.val := by
    cases upper
    · exact (C14_digits v hv).2.2.1
    · exact (C14_digits v hv).2.2.2
  obtain ⟨hgood, hnum⟩ := digitsVal_numeral 16 upper Bvf.hexVal (by decide) (by decide) (hexVal_digitChar upper) v.abs.val
  rw [hd] at hfit ⊢
  obtain ⟨r, e, hi, ha, hty⟩ := ((C15_from_hex t (BV.numeral 16 upper v.abs.val) ht).2 (by cases t <;> exact hfit)).2 hgood
  have hval := (congrArg BV.val ha).trans hnum
  have n := E2E_aux_eq_of_val v r hv hi hval
  exact ⟨r, e, hi, hval, hty, Vec.len_of_abs ha, n.1, n.2⟩

/-- a vector and its conversion to another implementation print the same binary, octal and hexadecimal digits -/
theorem E2E_convert_digits (t : Ty) (v r : Vec) (hv : v.Inv) (ht : E2E_TyOk t) (h : Api.convert t v = .ok r) (k : Char)
    (hk : k = 'b' ∨ k = 'o' ∨ k = 'x' ∨ k = 'X') : Api.digits r k = Api.digits v k := by
  obtain ⟨hr, ha, _⟩ := Api.convert_ok t v r hv ht h
  exact C14_value_only r v hr hv (congrArg BV.val ha) k hk

example := E2E_binary_roundtrip _ E2E_ex_d (.f 8 1) wok8
  (by show (Api.digits (.d ⟨#[0x2D#64], 7⟩) 'b').length ≤ 1 * 8; decide)

/-- `reserve(k)` then `shrink_to_fit()` (and the other order) changes neither length nor bits -/
theorem E2E_reserve_shrink (v : Vec) (hv : v.Inv) (k : Nat) :
    (Api.shrinkToFit (Api.reserve v k)).Inv ∧ (Api.shrinkToFit (Api.reserve v k)).abs = v.abs ∧
    (Api.reserve (Api.shrinkToFit v) k).Inv ∧ (Api.reserve (Api.shrinkToFit v) k).abs = v.abs := by
  simp only [e2e, hv, and_self]

/-- when `push` fits, it also succeeds after `reserve(k)` and after `shrink_to_fit()`, and gives the same bits -/
theorem E2E_reserve_push (v : Vec) (hv : v.Inv) (k : Nat) (b : Bool) (hfit : v.fits (v.len + 1)) :
    ∃ r r1 r2, Api.push v b = .ok r ∧ Api.push (Api.reserve v k) b = .ok r1 ∧ Api.push (Api.shrinkToFit v) b = .ok r2 ∧
      r1.Inv ∧ r2.Inv ∧ r1.abs = r.abs ∧ r2.abs = r.abs ∧ r.abs = v.abs.push b := by
  obtain ⟨hri, hra, hrt, hrl⟩ := E2E_aux_reserve v hv k
  obtain ⟨hsi, hsa, hst, hsl⟩ := E2E_aux_shrink v hv
  obtain ⟨r, e, _, ha, _⟩ := E2E_aux_push v hv b hfit
  obtain ⟨r1, e1, hi1, ha1, _⟩ := E2E_aux_push _ hri b (hrl ▸ (Vec.fits_of_ty hrt _).mpr hfit)
  obtain ⟨r2, e2, hi2, ha2, _⟩ := E2E_aux_push _ hsi b (hsl ▸ (Vec.fits_of_ty hst _).mpr hfit)
  rw [hra] at ha1
  rw [hsa] at ha2
  exact ⟨r, r1, r2, e, e1, e2, hi1, hi2, ha1.trans ha.symm, ha2.trans ha.symm, ha⟩

/-- `push(b)`, `reserve(k)`, `shrink_to_fit()`, `pop()` gives back the original vector and `Some(b)` -/
theorem E2E_push_reserve_shrink_pop (v : Vec) (hv : v.Inv) (b : Bool) (k : Nat) (hfit : v.fits (v.len + 1)) :
    ∃ r, Api.push v b = .ok r ∧ (Api.pop (Api.shrinkToFit (Api.reserve r k))).1.Inv ∧
      (Api.pop (Api.shrinkToFit (Api.reserve r k))).1.abs = v.abs ∧
      (Api.pop (Api.shrinkToFit (Api.reserve r k))).2 = some b := by
  obtain ⟨r, e, hr, ha, _⟩ := E2E_aux_push v hv b hfit
  refine ⟨r, e, ?_⟩
  have h1 := E2E_aux_reserve r hr k
  simp only [e2e, hr, h1.1, ha, Law_push_pop v.abs b (Vec.abs_wf hv), and_self]

/-- `set` / `get` do not see `reserve` or `shrink_to_fit` -/
theorem E2E_capacity_set_get (v : Vec) (hv : v.Inv) (k i : Nat) (b : Bool) (hi : i < v.len) :
    (Api.set (Api.reserve v k) i b).abs = (Api.set v i b).abs ∧
    (Api.set (Api.shrinkToFit v) i b).abs = (Api.set v i b).abs ∧
    Api.get (Api.reserve v k) i = Api.get v i ∧ Api.get (Api.shrinkToFit v) i = Api.get v i := by
  simp only [e2e, hv, hi, and_self]

/-- `reserve` and `shrink_to_fit` are invisible to `==`, `cmp`, the hash stream, `to_vec` and the formatted digits -/
theorem E2E_capacity_observers (v : Vec) (hv : v.Inv) (k : Nat) (big : Bool) :
    Api.eq v (Api.shrinkToFit (Api.reserve v k)) = true ∧ Api.cmp v (Api.shrinkToFit (Api.reserve v k)) = .eq ∧
    Api.hashStream (Api.shrinkToFit (Api.reserve v k)) = Api.hashStream v ∧
    Api.toVec (Api.shrinkToFit (Api.reserve v k)) big = Api.toVec v big ∧
    Api.digits (Api.shrinkToFit (Api.reserve v k)) 'x' = Api.digits v 'x' := by
  obtain ⟨hri, hra, hrt, _⟩ := E2E_aux_reserve v hv k
  obtain ⟨hi, hsa, hst, _⟩ := E2E_aux_shrink _ hri
  have ha : (Api.shrinkToFit (Api.reserve v k)).abs = v.abs := hsa.trans hra
  have hval := congrArg BV.val ha
  have n := E2E_aux_eq_of_val v _ hv hi hval
  have hh := E2E_aux_hash_same_ty _ v hi hv hval (hst.trans hrt)
  have hd := C14_value_only _ v hi hv hval 'x' (Or.inr (Or.inr (Or.inl rfl)))
  refine ⟨n.1, n.2, hh, ?_, hd⟩
  rw [(C13_to_vec _ hi big).1, (C13_to_vec v hv big).1, ha]

example := E2E_push_reserve_shrink_pop _ E2E_ex_d true 1000 trivial

/-- the bits among the values returned by a sequence of iterator calls -/
def E2E_items : List IterOut → List Bool
  | [] => []
  | .bit (some b) :: l => b :: E2E_items l
  | _ :: l => E2E_items l

theorem E2E_aux_sliceRun_next (l : List Bool) :
    E2E_items (sliceRun false l (List.replicate l.length .next)) = l := by
  induction l with
  | nil => rfl
  | cons b l ih =>
    simp only [List.length_cons, List.replicate_succ, sliceRun, sliceStep, Bool.false_eq_true, if_false,
      List.head?_cons, List.drop_succ_cons, List.drop_zero, E2E_items]
    rw [ih]

theorem E2E_aux_sliceRun_next_rev (l : List Bool) :
    E2E_items (sliceRun true l (List.replicate l.length .next)) = l.reverse := by
  -- the reversed iterator takes from the back: induction on the reversed list, which grows at the bit taken first
  suffices h : ∀ m : List Bool, E2E_items (sliceRun true m.reverse (List.replicate m.length .next)) = m by
    have := h l.reverse
    rwa [List.reverse_reverse, List.length_reverse] at this
  intro m
  induction m with
  | nil => rfl
  | cons b m ih =>
    simp only [List.reverse_cons, List.length_cons, List.replicate_succ, sliceRun, sliceStepRev, sliceStep, if_true,
      List.dropLast_concat, List.getLast?_concat, E2E_items]
    rw [ih]

/-- draining `v.iter()` with `len` calls to `next()` and collecting the items into *any* implementation type that
has room rebuilds the vector -/
theorem E2E_iter_collect (v : Vec) (hv : v.Inv) (t : Ty) (ht : E2E_TyOk t) (hfit : E2E_TyFits t v.len) (hint : Nat) :
    ∃ r, Api.collect t (E2E_items (Api.iterRun v false (List.replicate v.len .next))) hint = .ok r ∧ r.Inv ∧
      r.abs = v.abs ∧ r.ty = t := by
  have hbl : v.abs.bits.length = v.len := by rw [BV.bits_length, Vec.abs_len]
  -- `← hbl`: the number of calls written as the length of the list, as `E2E_aux_sliceRun_next` has it
  rw [C17_refines v hv.wpos, ← hbl, E2E_aux_sliceRun_next]
  rw [← hbl] at hfit
  obtain ⟨r, e, hr, ha, hty⟩ := C07_collect t ht v.abs.bits hint (by cases t <;> exact hfit)
  exact ⟨r, e, hr, by rw [ha, BV.ofBits_bits_self _ (Vec.abs_wf hv)], hty⟩

/-- draining `v.iter().rev()` with `len` calls to `next()` and collecting gives a vector with the same bits in
reverse order -/
theorem E2E_iter_rev_collect (v : Vec) (hv : v.Inv) (t : Ty) (ht : E2E_TyOk t) (hfit : E2E_TyFits t v.len)
    (hint : Nat) :
    ∃ r, Api.collect t (E2E_items (Api.iterRun v true (List.replicate v.len .next))) hint = .ok r ∧ r.Inv ∧
      r.abs.bits = v.abs.bits.reverse ∧ r.len = v.len ∧ r.ty = t := by
  have hbl : v.abs.bits.length = v.len := by rw [BV.bits_length, Vec.abs_len]
  rw [C17_refines v hv.wpos, ← hbl, E2E_aux_sliceRun_next_rev]
  rw [← hbl, ← List.length_reverse (as := v.abs.bits)] at hfit
  obtain ⟨r, e, hr, ha, hty⟩ := C07_collect t ht v.abs.bits.reverse hint (by cases t <;> exact hfit)
  have hb : r.abs.bits = v.abs.bits.reverse := by rw [ha, BV.ofBits_bits]
  exact ⟨r, e, hr, hb, by rw [← Vec.abs_len, ← BV.bits_length, hb, List.length_reverse], hty⟩

/-- reversing twice through `iter().rev()` + `collect` rebuilds the original vector -/
theorem E2E_iter_rev_collect_twice (v : Vec) (hv : v.Inv) (t : Ty) (ht : E2E_TyOk t) (hfit : E2E_TyFits t v.len)
    (hint : Nat) :
    ∃ r r', Api.collect t (E2E_items (Api.iterRun v true (List.replicate v.len .next))) hint = .ok r ∧ r.Inv ∧
      Api.collect t (E2E_items (Api.iterRun r true (List.replicate r.len .next))) hint = .ok r' ∧ r'.Inv ∧
      r'.abs = v.abs ∧ r'.ty = t := by
  obtain ⟨r, e, hr, hb, hl, _⟩ := E2E_iter_rev_collect v hv t ht hfit hint
  obtain ⟨r', e', hr', hb', _, hty'⟩ := E2E_iter_rev_collect r hr t ht (by rw [hl]; exact hfit) hint
  refine ⟨r, r', e, hr, e', hr', ?_, hty'⟩
  apply BV.eq_of_bits _ _ (Vec.abs_wf hr') (Vec.abs_wf hv)
  rw [hb', hb, List.reverse_reverse]

example : E2E_items (Api.iterRun (.f 8 ⟨#[0x15#8, 0#8], 5⟩) false (List.replicate 5 .next)) =
    [true, false, true, false, true] := by decide
example := E2E_iter_collect _ E2E_ex_f .a trivial trivial 0

/-- `collect` then draining the iterator returns the collected bits in order -/
theorem E2E_collect_iter (t : Ty) (ht : E2E_TyOk t) (bs : List Bool) (hint : Nat) (hfit : E2E_TyFits t bs.length) :
    ∃ r, Api.collect t bs hint = .ok r ∧ r.Inv ∧ r.len = bs.length ∧
      E2E_items (Api.iterRun r false (List.replicate r.len .next)) = bs := by
  obtain ⟨r, e, hr, ha, _⟩ := C07_collect t ht bs hint (by cases t <;> exact hfit)
  have hl : r.len = bs.length := by rw [Vec.len_of_abs ha, BV.ofBits_len]
  refine ⟨r, e, hr, hl, ?_⟩
  rw [C17_refines r hr.wpos, ha, BV.ofBits_bits, hl, E2E_aux_sliceRun_next]

example := E2E_collect_iter (.f 8 1) wok8 [true, false, true] 0 (by show 3 ≤ 1 * 8; decide)

end Bva
