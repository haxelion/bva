import BvaProofs.Api
/-!
# C04 — bitwise and / or / xor / not act bit-by-bit within the left operand's length

`Api.bitop op v x` is the L1 model of `v op= x` / `v op x` in every syntactic form (they all reach
the same three bodies per implementation), `Api.not v byRef` of `!v` / `!&v`.
The right-hand side `x : Api.Rhs` is a vector of any implementation, word width and length, or a native
unsigned integer of any of the six types (lifted by the code to a temporary vector, `Api.liftUInt`, proved
to denote the integer).
-/
namespace Bva

/-- L0 meaning, bit by bit: result bit `i` is `f (a_i) (x_i)` for `i < len a`, with `x_i = 0` beyond `x`'s
length, and no bit at or beyond `len a` is set — whatever the length of `x`. -/
theorem C04_spec_bits (op : BitOp) (a x : BV) (ha : a.WF) (i : Nat) :
    (op.spec a x).len = a.len ∧
    (op.spec a x).bit i = (decide (i < a.len) && op.apb (a.bit i) (x.bit i)) :=
  ⟨BitOp.spec_len _ _ _, BitOp.spec_bit _ _ _ ha i⟩

/-- L1 refines L0 for every implementation of the subject and every implementation, word width and
length of the right-hand side: the result satisfies the storage invariant (no bit of `x` at an index
≥ `len v` survives anywhere in storage) and its abstraction is the spec. -/
theorem C04_bitop (op : BitOp) (v : Vec) (x : Api.Rhs) (hv : v.Inv) (hx : x.Inv) :
    (Api.bitop op v x).Inv ∧ (Api.bitop op v x).abs = op.spec v.abs x.spec :=
  let r := Api.bitop_refines op v x hv hx; ⟨r.1, r.2.1⟩

/-- `!v` and `!&v` (the latter reaches a separately written body for `Bvd`): complement within the length. -/
theorem C04_not (v : Vec) (hv : v.Inv) (byRef : Bool) :
    (Api.not v byRef).Inv ∧ (Api.not v byRef).abs = v.abs.not :=
  let r := Api.not_refines v hv byRef; ⟨r.1, r.2.1⟩

/-- the result depends only on the abstractions of the operands (no hidden state) -/
theorem C04_bits_only (op : BitOp) (v v' : Vec) (x x' : Api.Rhs) (hv : v.Inv) (hv' : v'.Inv) (hx : x.Inv) (hx' : x'.Inv)
    (e1 : v.abs = v'.abs) (e2 : x.spec = x'.spec) :
    (Api.bitop op v x).abs = (Api.bitop op v' x').abs := by
  rw [(C04_bitop op v x hv hx).2, (C04_bitop op v' x' hv' hx').2, e1, e2]

/-- non-vacuity: `zeros(4) | 0xF0` on a `Bvf<u8,1>` stays zero (the defect D2 input) -/
example : (Api.bitop .or (.f 8 ⟨#[0x00#8], 4⟩) (.vec (.f 8 ⟨#[0xF0#8], 8⟩))).abs = ⟨4, 0⟩ := by decide

end Bva
