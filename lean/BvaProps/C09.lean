import BvaProofs.Refine
/-!
# C09 — equality and ordering are numeric comparison of unsigned values across all types

`Api.eq l r` / `Api.cmp l r` select, from the implementations of the two operands, the Rust impl that
`l == r` / `l.partial_cmp(&r)` resolves to (seven distinct bodies plus the reversing delegations and the
`Bv` dispatch matrices).  `<`, `<=`, `>`, `>=`, `!=` and `Ord::cmp` are std's defaults on top of these.
-/
namespace Bva

/-- `==` and `partial_cmp` between any two vectors decide exactly the numeric comparison of their
unsigned values (the shorter operand being implicitly zero-extended: only `val` matters). -/
theorem C09_numeric (l r : Vec) (hl : l.Inv) (hr : r.Inv) :
    Api.eq l r = decide (l.abs.val = r.abs.val) ∧ Api.cmp l r = compare l.abs.val r.abs.val := by
  rcases l with ⟨w, a⟩ | a | a
  · rcases r with ⟨w1, b⟩ | b | b
    · exact Bvf.eqcmp_num a b (hl.1.compat hr.1) hl.2 hr.2
    · exact eqcmp_swap (Bvd.eqcmp_bvf_num b a (hl.1.compat wok64) hr hl.2)
    · exact eqcmp_swap (Bv.eqcmp_any_num b (.f w a) hr.bvinv hl.any.div (hl.any.compat wok64))
  · rcases r with ⟨w1, b⟩ | b | b
    · exact Bvd.eqcmp_bvf_num a b (hr.1.compat wok64) hl hr.2
    · exact ⟨Bvd.eqBvd_eq_any a b, Bvd.cmpBvd_eq a b hl hr⟩
    · exact eqcmp_swap (Bv.eqcmp_any_num b (.d a) hr.bvinv hl.any.div (hl.any.compat wok64))
  · exact Vec.any_abs r ▸ Bv.eqcmp_any_num a r.any hl.bvinv hr.any.div (hr.any.compat wok64)

/-- consequences: reflexive, symmetric across operand order and type, transitive, total, and
`PartialEq` agrees with `PartialOrd` (`==` ⇔ `cmp = Equal`). -/
theorem C09_total_order (a b c : Vec) (ha : a.Inv) (hb : b.Inv) (hc : c.Inv) :
    Api.eq a a = true ∧ Api.cmp a a = .eq ∧
    Api.eq a b = Api.eq b a ∧ (Api.cmp a b).swap = Api.cmp b a ∧
    (Api.eq a b = true ↔ Api.cmp a b = .eq) ∧
    (Api.cmp a b ≠ .gt → Api.cmp b c ≠ .gt → Api.cmp a c ≠ .gt) ∧
    (Api.eq a b = true → Api.eq b c = true → Api.eq a c = true) ∧
    (Api.cmp a b ≠ .gt ∨ Api.cmp b a ≠ .gt) := by
  rw [(C09_numeric a a ha ha).1, (C09_numeric a a ha ha).2, (C09_numeric a b ha hb).1, (C09_numeric a b ha hb).2,
    (C09_numeric b a hb ha).1, (C09_numeric b a hb ha).2, (C09_numeric b c hb hc).1, (C09_numeric b c hb hc).2,
    (C09_numeric a c ha hc).1, (C09_numeric a c ha hc).2]
  exact ⟨decide_eq_true rfl, Nat.compare_eq_eq.mpr rfl, decide_eq_decide.mpr eq_comm, Nat.compare_swap _ _,
    decide_eq_true_iff.trans Nat.compare_eq_eq.symm, natCmp_le_trans,
    fun h1 h2 => decide_eq_true ((of_decide_eq_true h1).trans (of_decide_eq_true h2)), natCmp_le_total _ _⟩

end Bva
