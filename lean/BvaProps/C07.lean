import BvaProofs.Api
import BvaProofs.ListView
/-!
# C07 — editing operations behave exactly like edits on a list of bits

For each edit: (1) the L1 model refines the L0 function (`C07_push` … `C07_collect`, most of them an `EditOk`: the
result satisfies the storage invariant, its abstraction is the L0 result, and it fails — by panicking — exactly when the
result would not fit a fixed capacity; the dynamic and auto types never fail); (2) the L0 function is the list edit on `bits` (index 0 least
significant) — `C07_list_view`.  The operand of `append` / `prepend` / `insert` is a vector of any
implementation, word width and length, including empty.
-/
namespace Bva

theorem C07_push (v : Vec) (hv : v.Inv) (b : Bool) : EditOk v (Api.push v b) (v.abs.push b) := by
  rcases v with ⟨w, s⟩ | s | c
  · exact .f hv.1 (Bvf.push_ok s b hv.1.pos hv.2) fun h => Bvf.push_panic s b (Nat.le_of_lt_succ h)
  · exact .d (Bvd.push_refines s b hv)
  · exact .a (Bv.push_ok c b hv.bvinv)

theorem C07_pop (v : Vec) (hv : v.Inv) :
    (Api.pop v).1.Inv ∧ ((Api.pop v).1.abs, (Api.pop v).2) = v.abs.pop ∧ (Api.pop v).1.ty = v.ty := by
  have r := Vec.mapRaw_refines₂ hv (·.pop) fun s hw hs => Raw.pop_refines s hw.pos hs
  rw [Api.pop_eq]
  exact ⟨r.1.1, Prod.ext r.1.2.1 r.2, r.1.2.2⟩

theorem C07_set (v : Vec) (hv : v.Inv) (i : Nat) (b : Bool) (hi : i < v.len) :
    (Api.set v i b).Inv ∧ (Api.set v i b).abs = v.abs.set i b ∧ (Api.set v i b).ty = v.ty :=
  Vec.mapRaw_refines hv (·.set i b) fun s hw hs e =>
    let r := Raw.set_refines s i b hw.pos hs (e ▸ hi); ⟨r.1, r.2.1, r.2.2⟩

theorem C07_resize (v : Vec) (hv : v.Inv) (n : Nat) (b : Bool) : EditOk v (Api.resize v n b) (v.abs.resize n b) := by
  have hl : (v.abs.resize n b).len = n := BV.resize_len _ _ _
  rcases v with ⟨w, s⟩ | s | c
  · exact .f hv.1 (fun h => Bvf.resize_ok s n b hv.1.pos hv.2 (Or.inl (hl ▸ h)))
      fun h => Bvf.resize_panic s n b (hl ▸ h) (Nat.lt_of_le_of_lt hv.2.1 (hl ▸ h))
  · exact .d (Bvd.resize_refines s n b hv)
  · exact .a (Bv.resize_ok c n b hv.bvinv)

/-- trait default `truncate` -/
theorem C07_truncate (v : Vec) (hv : v.Inv) (n : Nat) :
    ∃ r, Api.truncate v n = .ok r ∧ r.Inv ∧ r.abs = v.abs.truncate n ∧ r.ty = v.ty := by
  unfold Api.truncate BV.truncate
  rw [Vec.abs_len]
  by_cases h : n < v.len
  · rw [if_pos h, if_pos h]
    exact (C07_resize v hv n false).1 (Vec.fits_mono (BV.resize_len _ _ _ ▸ Nat.le_of_lt h) hv.fits_len)
  · rw [if_neg h, if_neg h]
    exact ⟨v, rfl, hv, rfl, rfl⟩

/-- trait default `sign_extend`: fills with the previous top bit (zero for an empty vector) -/
theorem C07_sign_extend (v : Vec) (hv : v.Inv) (n : Nat) : EditOk v (Api.signExtend v n) (v.abs.signExtend n) := by
  unfold Api.signExtend BV.signExtend
  rw [Vec.abs_len]
  by_cases h : n > v.len
  · have hs : (if v.len = 0 then false else Api.get v (v.len - 1)) = (decide (v.len > 0) && v.abs.bit (v.len - 1)) := by
      by_cases h0 : v.len = 0
      · rw [if_pos h0, h0]; rfl
      · rw [if_neg h0, decide_eq_true (Nat.pos_of_ne_zero h0), Api.get_eq_bit v hv.wpos]; rfl
    rw [if_pos h, if_pos h, hs]
    exact C07_resize v hv n _
  · rw [if_neg h, if_neg h]
    exact .ok hv

theorem C07_append (v : Vec) (x : Vec) (hv : v.Inv) (hx : x.Inv) :
    EditOk v (Api.append v x.any) (v.abs.append x.abs) := by
  have hsrc := hx.any.src
  rw [← Vec.any_abs x]
  rcases v with ⟨w, s⟩ | s | c
  · refine .f hv.1 (fun h => Bvf.append_ok s x.any hv.1.pos hv.1.eight_dvd hv.2 hsrc.1 (AnyBv.abs_len _ ▸ h)) fun h => ?_
    have h : s.data.size * w < s.length + x.any.len := AnyBv.abs_len _ ▸ h
    -- the subject alone fits, so the operand is not empty
    exact Bvf.append_panic s x.any h (Nat.pos_of_lt_add_right (Nat.lt_of_le_of_lt hv.2.1 h))
  · exact .d (Bvd.append_refines s x.any hv hsrc.2)
  · exact .a (Bv.append_ok c x.any hv.bvinv hsrc.1 hsrc.2)

theorem C07_prepend (v : Vec) (x : Vec) (hv : v.Inv) (hx : x.Inv) :
    EditOk v (Api.prepend v x.any) (v.abs.prepend x.abs) := by
  have hsrc := hx.any.src
  rw [← Vec.any_abs x]
  rcases v with ⟨w, s⟩ | s | c
  · refine .f hv.1 (fun h => Bvf.prepend_ok s x.any hv.1.pos hv.1.eight_dvd hv.2 hsrc.1 (AnyBv.abs_len _ ▸ h)) fun h => ?_
    have h : s.data.size * w < s.length + x.any.len := AnyBv.abs_len _ ▸ h
    -- the subject alone fits, so the operand is not empty
    exact Bvf.prepend_panic s x.any h (Nat.pos_of_lt_add_right (Nat.lt_of_le_of_lt hv.2.1 h))
  · exact .d (Bvd.prepend_refines s x.any hv hsrc.2)
  · exact .a (Bv.prepend_ok c x.any hv.bvinv hsrc.1 hsrc.2)

/-- trait default `split_off(i)`, `i ≤ len`: leaves the low `i` bits, returns the remaining high bits -/
theorem C07_split_off (v : Vec) (hv : v.Inv) (i : Nat) (hi : i ≤ v.len) :
    ∃ lo hi', Api.splitOff v i = .ok (lo, hi') ∧ lo.Inv ∧ hi'.Inv ∧
      (lo.abs, hi'.abs) = v.abs.splitOff i ∧ lo.ty = v.ty ∧ hi'.ty = v.ty := by
  have hc := Api.copyRange_refines v hv i v.len hi (Nat.le_refl _)
  obtain ⟨lo, e, hli, hla, hlt⟩ :=
    (C07_resize v hv i false).1 (Vec.fits_mono (BV.resize_len _ _ _ ▸ hi) hv.fits_len)
  refine ⟨lo, Api.copyRange v i v.len, congrArg (Res.map _) e, hli, hc.1, ?_, hlt, hc.2.2⟩
  rw [hla, hc.2.1, BV.resize, if_pos (Vec.abs_len v ▸ hi), BV.splitOff, Vec.abs_len]

/-- trait default `insert(i, x)` = `split_off(i)`, `append(x)`, `append(high part)` -/
theorem C07_insert (v x : Vec) (hv : v.Inv) (hx : x.Inv) (i : Nat) (hi : i ≤ v.len) :
    EditOk v (Api.insert v i x.any) (v.abs.insert i x.abs) := by
  obtain ⟨lo, hi', e, hlo, hhi, hab, tlo, -⟩ := C07_split_off v hv i hi
  have hla : lo.abs = _ := congrArg Prod.fst hab
  have hha : hi'.abs = _ := congrArg Prod.snd hab
  have hi₀ : i ≤ v.abs.len := Vec.abs_len v ▸ hi
  rw [BV.lv_insert_eq v.abs i x.abs (Vec.abs_wf hv) hi₀, Api.insert, e, ← hla, ← hha]
  refine .of_ty tlo (.bind (C07_append lo x hlo hx) (Nat.le_add_right _ _) fun r1 hr1 ha1 _ => ?_)
  rw [← ha1]
  exact C07_append r1 hi' hr1 hhi

/-- the loop of `push`es that `Extend<Bit>::extend` and `FromIterator<Bit>` have in common -/
theorem C07_extend_pushes (v : Vec) (hv : v.Inv) (bs : List Bool) :
    EditOk v (bs.foldl (fun acc b => acc.bind fun u => Api.push u b) (.ok v)) (v.abs.extend bs) := by
  -- the fold over `Res` is the iterated bind: generalise the start to any edit of `v`
  suffices h : ∀ (bs : List Bool) (res : Res Vec) (a : BV), EditOk v res a →
      EditOk v (bs.foldl (fun acc b => acc.bind fun u => Api.push u b) res) (a.extend bs) from h bs _ _ (.ok hv)
  intro bs
  induction bs with
  | nil => exact fun _ _ h => h
  | cons b bs ih =>
    exact fun res a h => ih _ _ (h.bind (Nat.le_succ _) fun r hr ha _ => ha ▸ C07_push r hr b)

/-- `Extend<Bit>::extend(bits)`: the dynamic and auto types reserve the size hint first (which changes nothing
observable), then every type pushes one bit at a time. -/
theorem C07_extend (v : Vec) (hv : v.Inv) (bs : List Bool) (hint : Nat := bs.length) :
    EditOk v (Api.extend v bs hint) (v.abs.extend bs) := by
  have r := Api.reserve_refines v hv hint
  have e : Api.extend v bs hint = bs.foldl (fun acc b => acc.bind fun u => Api.push u b) (.ok (Api.reserve v hint)) := by
    rcases v with _ | _ | _ <;> rfl
  rw [e, ← r.2.1]
  exact (C07_extend_pushes _ r.1 bs).of_ty r.2.2

/-- `FromIterator<Bit>` (`collect`): `with_capacity(size_hint)` then push — the result is the vector whose
list of bits is the iterator's items; for a fixed type it panics exactly when there are more items than capacity. -/
theorem C07_collect (t : Ty) (ht : match t with | .f w _ => WOk w | _ => True) (bs : List Bool) (hint : Nat) :
    (match t with | .f w N => bs.length ≤ N * w | _ => True) →
    ∃ r, Api.collect t bs hint = .ok r ∧ r.Inv ∧ r.abs = BV.ofBits bs ∧ r.ty = t := by
  intro hfit
  -- `with_capacity` succeeds with an empty `v0` of type `t`; then the pushes are an edit of `v0` that fits
  suffices h : ∃ v0, Api.withCapacity t hint = .ok v0 ∧ v0.Inv ∧ v0.abs = BV.zeros 0 ∧ v0.ty = t ∧
      v0.fits bs.length by
    obtain ⟨v0, e, hv0, a0, t0, f0⟩ := h
    have hl : (v0.abs.extend bs).len = bs.length := by rw [BV.extend_len, a0]; exact Nat.zero_add _
    obtain ⟨r, er, hr, ha, tr, _⟩ := (C07_extend_pushes v0 hv0 bs).of_fits hl f0
    exact ⟨r, by rw [Api.collect, e]; exact er, hr, by rw [ha, a0, BV.extend_zeros_eq_ofBits], tr.trans t0⟩
  cases t with
  | f w N =>
    obtain ⟨z, ez, hz, az, sz⟩ := Bvf.zeros_ok (w := w) N 0 ht.pos (Nat.zero_le _)
    exact ⟨.f w z, congrArg (liftF w) ez, ⟨ht, hz⟩, az, congrArg (Ty.f w) sz,
      show bs.length ≤ z.data.size * w from sz ▸ hfit⟩
  | d => have r := Bvd.withCapacity_refines hint; exact ⟨_, rfl, r.1, r.2.1, rfl, trivial⟩
  | a => have r := Bv.withCapacity_refines hint; exact ⟨_, rfl, Vec.inv_a.mpr r.1, r.2.1, rfl, trivial⟩

/-- the L0 functions are the list edits (index 0 = least significant bit first) -/
theorem C07_list_view (a x : BV) (ha : a.WF) (hx : x.WF) (b : Bool) (i m : Nat) (bs : List Bool) :
    (a.push b).bits = a.bits ++ [b] ∧
    (a.pop.1.bits = a.bits.dropLast ∧ a.pop.2 = a.bits.getLast?) ∧
    (i < a.len → (a.set i b).bits = a.bits.set i b) ∧
    (a.resize m b).bits = (a.bits ++ List.replicate (m - a.len) b).take m ∧
    (a.truncate m).bits = a.bits.take m ∧
    (a.signExtend m).bits = a.bits ++ List.replicate (m - a.len) (a.bits.getLast?.getD false) ∧
    (a.append x).bits = a.bits ++ x.bits ∧
    (a.prepend x).bits = x.bits ++ a.bits ∧
    (i ≤ a.len → (a.insert i x).bits = a.bits.take i ++ x.bits ++ a.bits.drop i) ∧
    (a.extend bs).bits = a.bits ++ bs ∧
    (BV.ofBits bs).bits = bs :=
  ⟨BV.push_bits a b ha, BV.pop_bits a, fun hi => BV.set_bits a i b hi, BV.resize_bits a m b ha,
   BV.truncate_bits a m, BV.signExtend_bits a m ha, BV.bits_append a x ha, BV.prepend_bits a x hx,
   fun hi => BV.insert_bits a i x ha hx hi, BV.extend_bits a bs ha, BV.ofBits_bits bs⟩

example : (Vec.f 8 ⟨#[0x15#8], 5⟩ : Vec).Inv := ⟨wok8, (Raw.invB_iff _ (by decide)).mp (by decide)⟩

end Bva
