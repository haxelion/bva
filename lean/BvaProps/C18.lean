import BvaProps.C07
/-!
# C18 — capacity management never changes the value; dynamic/auto never run out of room
-/
namespace Bva

/-- at every point `len ≤ capacity` (part of the storage invariant, which every operation preserves) -/
theorem C18_len_le_capacity (v : Vec) (hv : v.Inv) : v.len ≤ v.capBits := hv.len_le_capBits

/-- `with_capacity(c)` on the dynamic and auto types: an empty vector with capacity ≥ `c` -/
theorem C18_with_capacity (c : Nat) :
    (∃ r, Api.withCapacity .d c = .ok r ∧ r.Inv ∧ r.abs = BV.zeros 0 ∧ c ≤ r.capBits) ∧
    (∃ r, Api.withCapacity .a c = .ok r ∧ r.Inv ∧ r.abs = BV.zeros 0 ∧ c ≤ r.capBits) := by
  constructor
  · have r := Bvd.withCapacity_refines c
    exact ⟨.d (Bvd.withCapacity c), rfl, r.1, r.2.1, r.2.2.2⟩
  · have r := Bv.withCapacity_refines c
    exact ⟨.a (Bv.withCapacity c), rfl, Vec.inv_a.mpr r.1, r.2.1, r.2.2⟩

/-- `reserve(k)`: length and bits unchanged, capacity ≥ `len + k` (a no-op on fixed vectors, which have no such method) -/
theorem C18_reserve (v : Vec) (hv : v.Inv) (k : Nat) :
    (Api.reserve v k).Inv ∧ (Api.reserve v k).abs = v.abs ∧
    (match v with | .f _ _ => True | _ => v.len + k ≤ (Api.reserve v k).capBits) := by
  refine ⟨(Api.reserve_refines v hv k).1, (Api.reserve_refines v hv k).2.1, ?_⟩
  rcases v with _ | s | c
  · trivial
  · exact (Bvd.reserve_refines s k hv).2.2.1
  · exact (Bv.reserve_refines c k hv.bvinv).2.2

/-- `shrink_to_fit()`: length and bits unchanged; no more capacity than a freshly constructed vector of that length -/
theorem C18_shrink_to_fit (v : Vec) (hv : v.Inv) :
    (Api.shrinkToFit v).Inv ∧ (Api.shrinkToFit v).abs = v.abs ∧
    (match v with
      | .f _ _ => True
      | .d _ => (Api.shrinkToFit v).capBits = (Vec.d (Bvd.zeros v.len)).capBits
      | .a _ => (Api.shrinkToFit v).capBits = (Vec.a (Bv.zeros v.len)).capBits) := by
  refine ⟨(Api.shrinkToFit_refines v hv).1, (Api.shrinkToFit_refines v hv).2.1, ?_⟩
  rcases v with _ | s | c
  · trivial
  · show (Bvd.shrinkToFit s).data.size * 64 = (Bvd.zeros s.length).data.size * 64
    rw [(Bvd.shrinkToFit_refines s hv).2.2, (Bvd.zeros_refines s.length).2.2]
  · exact (Bv.shrinkToFit_refines c hv.bvinv).2.2

/-- the dynamic and auto types never fail or panic for lack of capacity: every edit, of any size, succeeds
with the L0 result (the auto type switching between inline and heap storage is invisible in `abs`) -/
theorem C18_never_out_of_room (v x : Vec) (hv : v.Inv) (hx : x.Inv)
    (hdyn : match v with | .f _ _ => False | _ => True) (b : Bool) (n i : Nat) (hi : i ≤ v.len) (bs : List Bool) :
    (∃ r, Api.push v b = .ok r ∧ r.Inv ∧ r.abs = v.abs.push b) ∧
    (∃ r, Api.resize v n b = .ok r ∧ r.Inv ∧ r.abs = v.abs.resize n b) ∧
    (∃ r, Api.signExtend v n = .ok r ∧ r.Inv ∧ r.abs = v.abs.signExtend n) ∧
    (∃ r, Api.append v x.any = .ok r ∧ r.Inv ∧ r.abs = v.abs.append x.abs) ∧
    (∃ r, Api.prepend v x.any = .ok r ∧ r.Inv ∧ r.abs = v.abs.prepend x.abs) ∧
    (∃ r, Api.insert v i x.any = .ok r ∧ r.Inv ∧ r.abs = v.abs.insert i x.abs) ∧
    (∃ r, Api.extend v bs = .ok r ∧ r.Inv ∧ r.abs = v.abs.extend bs) := by
  have hfits : ∀ m, v.fits m := by
    rcases v with _ | _ | _
    · exact hdyn.elim
    · exact fun _ => trivial
    · exact fun _ => trivial
  have k : ∀ {res : Res Vec} {spec : BV}, EditOk v res spec → ∃ r : Vec, res = Res.ok r ∧ r.Inv ∧ r.abs = spec := by
    intro res spec h
    obtain ⟨r, e, hr, ha, _⟩ := h.1 (hfits _)
    exact ⟨r, e, hr, ha⟩
  exact ⟨k (C07_push v hv b), k (C07_resize v hv n b), k (C07_sign_extend v hv n),
    k (C07_append v x hv hx), k (C07_prepend v x hv hx), k (C07_insert v x hv hx i hi),
    k (C07_extend v hv bs)⟩

end Bva
