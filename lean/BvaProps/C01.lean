import BvaProofs.Api
/-!
# C01 — add, subtract (and multiply) wrap modulo 2^len for every operand pairing

`Api.addsub sub v x` is the L1 model of `v += x` / `v -= x` and of every other syntactic form of
`+` / `-` (they all reach the same carry-chain bodies: `Bvf` with `cadd`/`csub` in three RHS arms,
`Bvd` with `overflowing_*` and the `c1 | c2` carry convention in two arms, `Bv` dispatching on both);
`Api.mul v x` of `*` / `*=` (schoolbook rows over `wmul`, including the separate half-word `u128::wmul`).
The right-hand side `x : Api.Rhs` is either a vector of any implementation, word width and length, or a
native unsigned integer of any of the six types (the code lifts it to a 128-bit fixed or a dynamic
temporary — `Api.liftUInt` — which is proved to denote the integer).
-/
namespace Bva

/-- `a + b`: result of `a`'s type and length, value `(val a + val b) mod 2^len`, storage invariant
re-established (nothing left in spare capacity or padding), for every pairing of implementations. -/
theorem C01_add (v : Vec) (x : Api.Rhs) (hv : v.Inv) (hx : x.Inv) :
    (Api.addsub false v x).Inv ∧ (Api.addsub false v x).abs = v.abs.add x.spec :=
  let r := Api.addsub_refines false v x hv hx; ⟨r.1, r.2.1⟩

/-- `a - b`: value `(val a - val b) mod 2^len`, written in `Nat` as `(val a + 2^n - val b mod 2^n) mod 2^n`. -/
theorem C01_sub (v : Vec) (x : Api.Rhs) (hv : v.Inv) (hx : x.Inv) :
    (Api.addsub true v x).Inv ∧ (Api.addsub true v x).abs = v.abs.sub x.spec :=
  let r := Api.addsub_refines true v x hv hx; ⟨r.1, r.2.1⟩

/-- `a * b`: value `(val a · val b) mod 2^len`. -/
theorem C01_mul (v : Vec) (x : Api.Rhs) (hv : v.Inv) (hx : x.Inv) :
    (Api.mul v x).Inv ∧ (Api.mul v x).abs = v.abs.mul x.spec :=
  let r := Api.mul_refines v x hv hx; ⟨r.1, r.2.1⟩

/-- the non-wrapping word additions of the multiplication (`cadd(..) + product.1`) cannot overflow either -/
theorem C01_mul_no_word_overflow {w : Nat} (hw : 2 ≤ w) (x y res carry : BitVec w) :
    (cadd res (wmul x y).1 carry).2.toNat + (wmul x y).2.toNat < 2 ^ w :=
  (mul_step_word hw wmul_ok x y res carry).1

/-- the sums the Rust code computes with a non-wrapping `+` on words (`c1 as Self + c2 as Self` in
`cadd`/`csub`) never overflow, so debug builds (overflow checks) and release builds agree. -/
theorem C01_no_word_overflow {w : Nat} (hw : 2 ≤ w) (c1 c2 : Bool) :
    (b2w w c1).toNat + (b2w w c2).toNat < 2 ^ w := b2w_add_no_overflow hw c1 c2

/-- the result depends only on the abstractions of the operands: never on spare capacity, storage
mode or how the operands were produced -/
theorem C01_bits_only (sub : Bool) (v v' : Vec) (x x' : Api.Rhs) (hv : v.Inv) (hv' : v'.Inv) (hx : x.Inv) (hx' : x'.Inv)
    (e1 : v.abs = v'.abs) (e2 : x.spec = x'.spec) :
    (Api.addsub sub v x).abs = (Api.addsub sub v' x').abs ∧ (Api.mul v x).abs = (Api.mul v' x').abs :=
  ⟨by rw [(Api.addsub_refines sub v x hv hx).2.1, (Api.addsub_refines sub v' x' hv' hx').2.1, e1, e2],
   by rw [(C01_mul v x hv hx).2, (C01_mul v' x' hv' hx').2, e1, e2]⟩

/-- non-vacuity: an 11-bit `Bvf<u8,2>` all-ones plus a longer dynamic operand wraps to zero -/
example : (Api.addsub false (.f 8 ⟨#[0xff#8, 0x07#8], 11⟩) (.vec (.d ⟨#[1#64, 0#64], 70⟩))).abs = ⟨11, 0⟩ := by decide
example : (Api.Rhs.uint 8 200).Inv := ⟨wok8, by decide, by decide⟩

end Bva
