import BvaProps.Laws
import BvaProps.C01
import BvaProps.C02
import BvaProps.C04
import BvaProps.C05
import BvaProps.C06
import BvaProps.C16
/-!
# Compositions of `Api.*` calls (arithmetic, bits) on any `Vec` with `Inv`: refinement theorems chained with `Law_*`
`simp only [e2e, hv, …]` rewrites `Inv`, `abs` and the counts of each call by its refinement theorem, the call before
discharging the `Inv` premise (simp goes two calls deep; a third needs its `Inv` as a `have`); the law closes the rest.
-/
namespace Bva

attribute [e2e] C01_add C01_sub C01_mul C04_bitop C04_not C05_shl C05_shr C06_rotl C06_rotr C16_counts BitOp.spec

theorem E2E_aux_rhs_inv {x : Vec} (hx : x.Inv) : (Api.Rhs.vec x).Inv := hx

theorem E2E_aux_abs_len_le {a b : Vec} (h : a.len ≤ b.len) : a.abs.len ≤ b.abs.len := by rwa [Vec.abs_len, Vec.abs_len]

theorem E2E_aux_abs_len_eq {a b : Vec} (h : a.len = b.len) : a.abs.len = b.abs.len := by rwa [Vec.abs_len, Vec.abs_len]

theorem E2E_aux_uint8_inv (x : Nat) (hx : x < 2 ^ 8) : (Api.Rhs.uint 8 x).Inv := ⟨wok8, by decide, hx⟩

-- the length of a result: simp needs it for the side condition (`hl`, `hk`) of the rule of the next call
@[e2e]
theorem E2E_aux_shl_len (v : Vec) (hv : v.Inv) (k : Nat) (r : Bool) (hl : v.len < 2 ^ 64) :
    (Api.shl v k r).len = v.len := by
  rw [Vec.len_of_abs (C05_shl v hv k r hl).2, BV.shl_len, Vec.abs_len]

@[e2e]
theorem E2E_aux_shr_len (v : Vec) (hv : v.Inv) (k : Nat) (r : Bool) (hl : v.len < 2 ^ 64) :
    (Api.shr v k r).len = v.len := by
  rw [Vec.len_of_abs (C05_shr v hv k r hl).2, BV.shr_len, Vec.abs_len]

@[e2e]
theorem E2E_aux_rotl_len (v : Vec) (hv : v.Inv) (k : Nat) (hk : k ≤ v.len) : (Api.rotl v k).len = v.len := by
  rw [Vec.len_of_abs (C06_rotl v hv k hk).2, BV.rotl_len, Vec.abs_len]

@[e2e]
theorem E2E_aux_rotr_len (v : Vec) (hv : v.Inv) (k : Nat) (hk : k ≤ v.len) : (Api.rotr v k).len = v.len := by
  rw [Vec.len_of_abs (C06_rotr v hv k hk).2, BV.rotr_len, Vec.abs_len]

-- `C05_shl_in` / `C05_shr_in` speak of a pair; simp rewrites with the components
@[e2e]
theorem E2E_aux_shlIn (v : Vec) (hv : v.Inv) (b : Bool) :
    (Api.shlIn v b).1.Inv ∧ (Api.shlIn v b).1.abs = (v.abs.shlIn b).1 ∧ (Api.shlIn v b).2 = (v.abs.shlIn b).2 :=
  have h := C05_shl_in v hv b
  ⟨h.1, congrArg Prod.fst h.2, congrArg Prod.snd h.2⟩

@[e2e]
theorem E2E_aux_shrIn (v : Vec) (hv : v.Inv) (b : Bool) :
    (Api.shrIn v b).1.Inv ∧ (Api.shrIn v b).1.abs = (v.abs.shrIn b).1 ∧ (Api.shrIn v b).2 = (v.abs.shrIn b).2 :=
  have h := C05_shr_in v hv b
  ⟨h.1, congrArg Prod.fst h.2, congrArg Prod.snd h.2⟩

/-- `(v + x) - x = v` for every implementation of `v` and every right-hand side (vector or integer) -/
theorem E2E_add_sub_cancel (v : Vec) (x : Api.Rhs) (hv : v.Inv) (hx : x.Inv) :
    (Api.addsub true (Api.addsub false v x) x).Inv ∧
    (Api.addsub true (Api.addsub false v x) x).abs = v.abs := by
  simp only [e2e, hv, hx, Law_add_sub_cancel _ _ (Vec.abs_wf hv), and_self]

/-- `(v - x) + x = v` -/
theorem E2E_sub_add_cancel (v : Vec) (x : Api.Rhs) (hv : v.Inv) (hx : x.Inv) :
    (Api.addsub false (Api.addsub true v x) x).Inv ∧
    (Api.addsub false (Api.addsub true v x) x).abs = v.abs := by
  simp only [e2e, hv, hx, Law_sub_add_cancel _ _ (Vec.abs_wf hv), and_self]

/-- `v - v' = 0` whenever `v'` denotes the same bit vector as `v` (possibly another implementation) -/
theorem E2E_sub_self (v v' : Vec) (hv : v.Inv) (hv' : v'.Inv) (e : v'.abs = v.abs) :
    (Api.addsub true v (.vec v')).Inv ∧ (Api.addsub true v (.vec v')).abs = BV.zeros v.len := by
  simp only [e2e, hv, hv', e, Law_sub_self, Vec.abs_len, and_self]

/-- `a + b = b + a` for two vectors of equal length of possibly different implementations -/
theorem E2E_add_comm (a b : Vec) (ha : a.Inv) (hb : b.Inv) (h : a.len = b.len) :
    (Api.addsub false a (.vec b)).abs = (Api.addsub false b (.vec a)).abs := by
  simp only [e2e, ha, hb]
  exact Law_add_comm _ _ (E2E_aux_abs_len_eq h)

/-- `a * b = b * a` for two vectors of equal length of possibly different implementations -/
theorem E2E_mul_comm (a b : Vec) (ha : a.Inv) (hb : b.Inv) (h : a.len = b.len) :
    (Api.mul a (.vec b)).abs = (Api.mul b (.vec a)).abs := by
  simp only [e2e, ha, hb]
  exact Law_mul_comm _ _ (E2E_aux_abs_len_eq h)

/-- `a * (b + c) = a * b + a * c` when `a` is not longer than `b`; `a`, `b`, `c` of any implementations -/
theorem E2E_mul_distrib (a b c : Vec) (ha : a.Inv) (hb : b.Inv) (hc : c.Inv) (h : a.len ≤ b.len) :
    (Api.mul a (.vec (Api.addsub false b (.vec c)))).abs =
      (Api.addsub false (Api.mul a (.vec b)) (.vec (Api.mul a (.vec c)))).abs := by
  simp only [e2e, ha, hb, hc]
  exact Law_mul_distrib _ _ _ (E2E_aux_abs_len_le h)

/-- `(a + b) * c = a * c + b * c` when `a` is not longer than `b` -/
theorem E2E_mul_distrib_right (a b : Vec) (c : Api.Rhs) (ha : a.Inv) (hb : b.Inv) (hc : c.Inv) (h : a.len ≤ b.len) :
    (Api.mul (Api.addsub false a (.vec b)) c).abs =
      (Api.addsub false (Api.mul a c) (.vec (Api.mul b c))).abs := by
  simp only [e2e, ha, hb, hc]
  exact Law_mul_distrib_right _ _ _ (E2E_aux_abs_len_le h)

/-- `(a + b) + c = a + (b + c)` when `a` is not longer than `b` -/
theorem E2E_add_assoc (a b : Vec) (c : Api.Rhs) (ha : a.Inv) (hb : b.Inv) (hc : c.Inv) (h : a.len ≤ b.len) :
    (Api.addsub false (Api.addsub false a (.vec b)) c).abs =
      (Api.addsub false a (.vec (Api.addsub false b c))).abs := by
  simp only [e2e, ha, hb, hc]
  exact Law_add_assoc _ _ _ (E2E_aux_abs_len_le h)

/-- `a - b = a + (z - b)`, with `z` any zero vector of `b`'s length -/
theorem E2E_sub_eq_add_neg (a b z : Vec) (ha : a.Inv) (hb : b.Inv) (hz : z.Inv) (h : a.len = b.len)
    (ez : z.abs = BV.zeros b.len) :
    (Api.addsub true a (.vec b)).abs = (Api.addsub false a (.vec (Api.addsub true z (.vec b)))).abs := by
  simp only [e2e, ha, hb, hz, ez, ← Vec.abs_len b]
  exact Law_sub_eq_add_neg _ _ (E2E_aux_abs_len_eq h)

/-- `(a * b) * c = a * (b * c)` when `a` is not longer than `b` -/
theorem E2E_mul_assoc (a b : Vec) (c : Api.Rhs) (ha : a.Inv) (hb : b.Inv) (hc : c.Inv) (h : a.len ≤ b.len) :
    (Api.mul (Api.mul a (.vec b)) c).abs = (Api.mul a (.vec (Api.mul b c))).abs := by
  simp only [e2e, ha, hb, hc]
  exact Law_mul_assoc _ _ _ (E2E_aux_abs_len_le h)

/-- units and zero given as native integers: `(v + 0u8) * 1u8 = v` and `v * 0u8 = 0` -/
theorem E2E_units (v : Vec) (hv : v.Inv) :
    (Api.mul (Api.addsub false v (.uint 8 0)) (.uint 8 1)).abs = v.abs ∧
    (Api.addsub true (Api.mul v (.uint 8 1)) (.uint 8 0)).abs = v.abs ∧
    (Api.mul v (.uint 8 0)).abs = BV.zeros v.len := by
  have h0 := E2E_aux_uint8_inv 0 (by decide)
  have h1 := E2E_aux_uint8_inv 1 (by decide)
  have hw := Vec.abs_wf hv
  simp only [e2e, hv, h0, h1]
  exact ⟨(congrArg (BV.mul · _) (Law_add_zero _ 8 hw)).trans (Law_mul_one _ 8 hw),
    (congrArg (BV.sub · _) (Law_mul_one _ 8 hw)).trans (Law_sub_zero _ 8 hw),
    (Law_mul_zero _ 8).trans (congrArg BV.zeros (Vec.abs_len v))⟩

/-- two's complement: `0 - v = !v + 1`, with `z` any zero vector of `v`'s length -/
theorem E2E_neg (v z : Vec) (hv : v.Inv) (hz : z.Inv) (ez : z.abs = BV.zeros v.len) (r : Bool) :
    (Api.addsub true z (.vec v)).abs = (Api.addsub false (Api.not v r) (.uint 8 1)).abs := by
  have h1 := E2E_aux_uint8_inv 1 (by decide)
  simp only [e2e, hv, hz, h1, ez, ← Vec.abs_len v, Law_neg _ (Vec.abs_wf hv)]
  rfl

/-- `v + v = v << 1 = v * 2` (the second summand may be another representation of the same bits) -/
theorem E2E_add_self (v v' : Vec) (hv : v.Inv) (hv' : v'.Inv) (e : v'.abs = v.abs) (r : Bool) (hl : v.len < 2 ^ 64) :
    (Api.addsub false v (.vec v')).abs = (Api.shl v 1 r).abs ∧
    (Api.addsub false v (.vec v')).abs = (Api.mul v (.uint 8 2)).abs := by
  have h2 := E2E_aux_uint8_inv 2 (by decide)
  simp only [e2e, hv, hv', h2, hl, e, Law_shl_val_mul]
  have e1 : v.abs.add v.abs = v.abs.mul ⟨8, 2⟩ := by unfold BV.add BV.mul; rw [Nat.mul_two]
  exact ⟨e1, e1⟩

example : (Api.addsub true (Api.addsub false (.f 8 ⟨#[0x9C#8], 8⟩) (.uint 8 200)) (.uint 8 200)).abs = ⟨8, 0x9C⟩ := by decide

/-- `div_rem` by a non-zero divisor of any implementation succeeds, and `q * x + r = v` computed by the code's `*` and `+` -/
theorem E2E_div_rem_recompose (v x : Vec) (hv : v.Inv) (hx : x.Inv) (h0 : x.abs.val ≠ 0) :
    ∃ q r, Api.divRem v x = .ok (q, r) ∧
      (Api.addsub false (Api.mul q (.vec x)) (.vec r)).Inv ∧
      (Api.addsub false (Api.mul q (.vec x)) (.vec r)).abs = v.abs := by
  obtain ⟨q, r, e, hq, hr, eq, er⟩ := (C02_div_rem v x hv hx).2 h0
  refine ⟨q, r, e, ?_⟩
  simp only [e2e, hq, hr, hx, eq, er, BV.div_mul_add_rem _ _ (Vec.abs_wf hv), and_self]

/-- `q * x + r = v` through the operators `/` and `%` (right-hand side a vector or a native integer) -/
theorem E2E_div_rem_op_recompose (v : Vec) (x : Api.Rhs) (hv : v.Inv) (hx : x.Inv) (h0 : x.spec.val ≠ 0) :
    ∃ q r, Api.divRemOp v x = .ok (q, r) ∧
      (Api.addsub false (Api.mul q x) (.vec r)).Inv ∧
      (Api.addsub false (Api.mul q x) (.vec r)).abs = v.abs := by
  obtain ⟨q, r, e, hq, hr, eq, er, _, _⟩ := (C02_operators v x hv hx).2 h0
  refine ⟨q, r, e, ?_⟩
  simp only [e2e, hq, hr, hx, eq, er, BV.div_mul_add_rem _ _ (Vec.abs_wf hv), and_self]

/-- `div_rem` returns `r < x`, and `v - r = q * x` -/
theorem E2E_div_rem_sub (v x : Vec) (hv : v.Inv) (hx : x.Inv) (h0 : x.abs.val ≠ 0) :
    ∃ q r, Api.divRem v x = .ok (q, r) ∧ r.abs.val < x.abs.val ∧
      (Api.addsub true v (.vec r)).abs = (Api.mul q (.vec x)).abs := by
  obtain ⟨q, r, e, hq, hr, eq, er⟩ := (C02_div_rem v x hv hx).2 h0
  refine ⟨q, r, e, er ▸ (Law_div_rem _ _ h0).2, ?_⟩
  simp only [e2e, hv, hq, hr, hx, eq, er]
  have h2 := Law_add_sub_cancel ((v.abs.div x.abs).mul x.abs) (v.abs.rem x.abs) (Law_wf_mul _ _)
  rwa [BV.div_mul_add_rem v.abs x.abs (Vec.abs_wf hv)] at h2

/-- `!!v = v`, whichever of the by-value / by-reference `Not` bodies is used for each call -/
theorem E2E_not_not (v : Vec) (hv : v.Inv) (r1 r2 : Bool) :
    (Api.not (Api.not v r1) r2).Inv ∧ (Api.not (Api.not v r1) r2).abs = v.abs := by
  simp only [e2e, hv, Law_not_not _ (Vec.abs_wf hv), and_self]

/-- `!(a & b) = !a | !b` when `a` is not longer than `b` -/
theorem E2E_not_and (a b : Vec) (ha : a.Inv) (hb : b.Inv) (h : a.len ≤ b.len) (r1 r2 r3 : Bool) :
    (Api.not (Api.bitop .and a (.vec b)) r1).abs = (Api.bitop .or (Api.not a r2) (.vec (Api.not b r3))).abs := by
  simp only [e2e, ha, hb]
  exact Law_not_and _ _ (Vec.abs_wf ha) (Vec.abs_wf hb) (E2E_aux_abs_len_le h)

/-- `!(a | b) = !a & !b` when `a` is not longer than `b` -/
theorem E2E_not_or (a b : Vec) (ha : a.Inv) (hb : b.Inv) (h : a.len ≤ b.len) (r1 r2 r3 : Bool) :
    (Api.not (Api.bitop .or a (.vec b)) r1).abs = (Api.bitop .and (Api.not a r2) (.vec (Api.not b r3))).abs := by
  simp only [e2e, ha, hb]
  exact Law_not_or _ _ (Vec.abs_wf ha) (Vec.abs_wf hb) (E2E_aux_abs_len_le h)

/-- `v ^ v' = 0` whenever `v'` denotes the same bit vector as `v` (possibly another implementation) -/
theorem E2E_xor_self (v v' : Vec) (hv : v.Inv) (hv' : v'.Inv) (e : v'.abs = v.abs) :
    (Api.bitop .xor v (.vec v')).Inv ∧ (Api.bitop .xor v (.vec v')).abs = BV.zeros v.len ∧
    Api.isZero (Api.bitop .xor v (.vec v')) = true := by
  simp only [e2e, hv, hv', e, Law_xor_self _ (Vec.abs_wf hv), Vec.abs_len, true_and]
  rfl

/-- `(v ^ x) ^ x = v` when `v` is not longer than `x` -/
theorem E2E_xor_xor_cancel (v : Vec) (x : Api.Rhs) (hv : v.Inv) (hx : x.Inv) (h : v.len ≤ x.spec.len) :
    (Api.bitop .xor (Api.bitop .xor v x) x).Inv ∧ (Api.bitop .xor (Api.bitop .xor v x) x).abs = v.abs := by
  simp only [e2e, hv, hx, true_and]
  rw [Law_xor_assoc _ _ _ (Vec.abs_len v ▸ h), Law_xor_self _ (Api.Rhs.spec_wf hx), Law_xor_zeros]

/-- `a op b = b op a` for `&`, `|`, `^` and two vectors of equal length of possibly different implementations -/
theorem E2E_bitop_comm (op : BitOp) (a b : Vec) (ha : a.Inv) (hb : b.Inv) (h : a.len = b.len) :
    (Api.bitop op a (.vec b)).abs = (Api.bitop op b (.vec a)).abs := by
  have hl : a.abs.len = b.abs.len := E2E_aux_abs_len_eq h
  simp only [e2e, ha, hb]
  cases op
  · exact Law_and_comm _ _ hl
  · exact Law_or_comm _ _ (Vec.abs_wf ha) (Vec.abs_wf hb) hl
  · exact Law_xor_comm _ _ (Vec.abs_wf ha) (Vec.abs_wf hb) hl

/-- `v & !v = 0`, `v | !v = 1…1`, `v ^ !v = 1…1` -/
theorem E2E_bitop_not_self (v : Vec) (hv : v.Inv) (r : Bool) :
    (Api.bitop .and v (.vec (Api.not v r))).abs = BV.zeros v.len ∧
    (Api.bitop .or v (.vec (Api.not v r))).abs = BV.ones v.len ∧
    (Api.bitop .xor v (.vec (Api.not v r))).abs = BV.ones v.len := by
  have hw := Vec.abs_wf hv
  simp only [e2e, hv, Law_and_not_self _ hw, Law_or_not_self _ hw, Law_xor_not_self _ hw, Vec.abs_len, and_self]

/-- `a | (a & x) = a` -/
theorem E2E_or_and_absorb (a : Vec) (x : Api.Rhs) (ha : a.Inv) (hx : x.Inv) :
    (Api.bitop .or a (.vec (Api.bitop .and a x))).abs = a.abs := by
  simp only [e2e, ha, hx, Law_or_and_absorb]

/-- `v ^ 1…1 = !v`, `v & 1…1 = v`, `v | 1…1 = 1…1`, for any all-ones vector `m` of `v`'s length -/
theorem E2E_bitop_ones (v m : Vec) (hv : v.Inv) (hm : m.Inv) (em : m.abs = BV.ones v.len) (r : Bool) :
    (Api.bitop .xor v (.vec m)).abs = (Api.not v r).abs ∧
    (Api.bitop .and v (.vec m)).abs = v.abs ∧
    (Api.bitop .or v (.vec m)).abs = m.abs := by
  have hw := Vec.abs_wf hv
  simp only [e2e, hv, hm, em, ← Vec.abs_len v, Law_xor_ones _ hw, Law_and_ones _ _ hw (Nat.le_refl _), Law_or_ones _ hw,
    and_self]

/-- `v & v' = v` and `v | v' = v` whenever `v'` denotes the same bits as `v` -/
theorem E2E_bitop_idem (v v' : Vec) (hv : v.Inv) (hv' : v'.Inv) (e : v'.abs = v.abs) :
    (Api.bitop .and v (.vec v')).abs = v.abs ∧ (Api.bitop .or v (.vec v')).abs = v.abs := by
  simp only [e2e, hv, hv', e, Law_and_self, Law_or_self, and_self]

/-- `(a op b) op c = a op (b op c)` for `&`, `|`, `^` when `a` is not longer than `b` -/
theorem E2E_bitop_assoc (op : BitOp) (a b : Vec) (c : Api.Rhs) (ha : a.Inv) (hb : b.Inv) (hc : c.Inv)
    (h : a.len ≤ b.len) :
    (Api.bitop op (Api.bitop op a (.vec b)) c).abs = (Api.bitop op a (.vec (Api.bitop op b c))).abs := by
  have hl : a.abs.len ≤ b.abs.len := E2E_aux_abs_len_le h
  simp only [e2e, ha, hb, hc]
  cases op
  · exact Law_and_assoc _ _ _
  · exact Law_or_assoc _ _ _ hl
  · exact Law_xor_assoc _ _ _ hl

/-- `a & (b | c) = (a & b) | (a & c)` when `a` is not longer than `b` -/
theorem E2E_and_or_distrib (a b : Vec) (c : Api.Rhs) (ha : a.Inv) (hb : b.Inv) (hc : c.Inv) (h : a.len ≤ b.len) :
    (Api.bitop .and a (.vec (Api.bitop .or b c))).abs =
      (Api.bitop .or (Api.bitop .and a (.vec b)) (.vec (Api.bitop .and a c))).abs := by
  simp only [e2e, ha, hb, hc]
  exact Law_and_or_distrib _ _ _ (E2E_aux_abs_len_le h) (Vec.abs_wf ha)

/-- `!(a ^ b) = !a ^ b` for two vectors of equal length -/
theorem E2E_xor_not (a b : Vec) (ha : a.Inv) (hb : b.Inv) (h : a.len = b.len) (r1 r2 : Bool) :
    (Api.not (Api.bitop .xor a (.vec b)) r1).abs = (Api.bitop .xor (Api.not a r2) (.vec b)).abs := by
  simp only [e2e, ha, hb]
  exact Law_xor_not _ _ (Vec.abs_wf ha) (Vec.abs_wf hb) (E2E_aux_abs_len_eq h)

example : (Api.not (Api.not (.d ⟨#[0x2D#64], 7⟩) true) false).abs = ⟨7, 0x2D⟩ := by decide

/-- `(v << j) << k = v << (j + k)`, whichever `Shl` bodies are used -/
theorem E2E_shl_shl (v : Vec) (hv : v.Inv) (j k : Nat) (r1 r2 r3 : Bool) (hl : v.len < 2 ^ 64) :
    (Api.shl (Api.shl v j r1) k r2).Inv ∧ (Api.shl (Api.shl v j r1) k r2).abs = (Api.shl v (j + k) r3).abs := by
  simp only [e2e, hv, hl, Law_shl_shl, and_self]

/-- `(v >> j) >> k = v >> (j + k)`, whichever `Shr` bodies are used -/
theorem E2E_shr_shr (v : Vec) (hv : v.Inv) (j k : Nat) (r1 r2 r3 : Bool) (hl : v.len < 2 ^ 64) :
    (Api.shr (Api.shr v j r1) k r2).Inv ∧ (Api.shr (Api.shr v j r1) k r2).abs = (Api.shr v (j + k) r3).abs := by
  simp only [e2e, hv, hl, Law_shr_shr _ _ _ (Vec.abs_wf hv), and_self]

/-- `(v << k) >> k` keeps the low `len - k` bits of `v` and clears the rest -/
theorem E2E_shl_shr (v : Vec) (hv : v.Inv) (k : Nat) (r1 r2 : Bool) (hl : v.len < 2 ^ 64) :
    (Api.shr (Api.shl v k r1) k r2).Inv ∧
    (Api.shr (Api.shl v k r1) k r2).abs = ⟨v.len, v.abs.val % 2 ^ (v.len - k)⟩ := by
  simp only [e2e, hv, hl, Law_shl_shr, Vec.abs_len, and_self]

/-- `(v >> k) << k = v & (m << k)`, with `m` any all-ones vector of `v`'s length -/
theorem E2E_shr_shl (v m : Vec) (hv : v.Inv) (hm : m.Inv) (em : m.abs = BV.ones v.len) (k : Nat) (r1 r2 r3 : Bool)
    (hl : v.len < 2 ^ 64) :
    (Api.shl (Api.shr v k r1) k r2).abs = (Api.bitop .and v (.vec (Api.shl m k r3))).abs := by
  have lm : m.len = v.len := Vec.len_of_abs em
  simp only [e2e, hv, hm, hl, lm, em, Law_shr_shl _ _ (Vec.abs_wf hv), Vec.abs_len]

/-- `v << k = v * 2^k` for `k < 64` (the multiplier given as a `u64`) -/
theorem E2E_shl_eq_mul (v : Vec) (hv : v.Inv) (k : Nat) (hk : k < 64) (r : Bool) (hl : v.len < 2 ^ 64) :
    (Api.shl v k r).abs = (Api.mul v (.uint 64 (2 ^ k))).abs := by
  have hx : (Api.Rhs.uint 64 (2 ^ k)).Inv := ⟨wok64, by decide, Nat.pow_lt_pow_right (by decide) hk⟩
  simp only [e2e, hv, hl, hx, Law_shl_val_mul]
  rfl

theorem E2E_shl_all (v : Vec) (hv : v.Inv) (k : Nat) (hk : v.len ≤ k) (r : Bool) (hl : v.len < 2 ^ 64) :
    Api.isZero (Api.shl v k r) = true ∧ Api.isZero (Api.shr v k r) = true := by
  have hk' : v.abs.len ≤ k := Vec.abs_len v ▸ hk
  simp only [e2e, hv, hl, BV.shl_of_len_le _ _ hk', BV.shr_of_len_le _ _ hk']
  exact ⟨rfl, rfl⟩

/-- the separately written by-reference bodies (`!&v`, `&v << k`, `&v >> k`) agree with the by-value ones -/
theorem E2E_byRef_agree (v : Vec) (hv : v.Inv) (k : Nat) (hl : v.len < 2 ^ 64) :
    (Api.not v true).abs = (Api.not v false).abs ∧ (Api.shl v k true).abs = (Api.shl v k false).abs ∧
    (Api.shr v k true).abs = (Api.shr v k false).abs := by
  simp only [e2e, hv, hl, and_self]

/-- `shl_in(b)` then `shr_in` of the bit that fell out restores the vector and returns `b` -/
theorem E2E_shlIn_shrIn (v : Vec) (hv : v.Inv) (b : Bool) (hl : 0 < v.len) :
    (Api.shrIn (Api.shlIn v b).1 (Api.shlIn v b).2).1.abs = v.abs ∧
    (Api.shrIn (Api.shlIn v b).1 (Api.shlIn v b).2).2 = b := by
  simp only [e2e, hv]
  exact Law_shlIn_shrIn v.abs b (Vec.abs_wf hv) (Vec.abs_len v ▸ hl)

/-- `shl_in(b)` leaves `(v << 1) | b` in the vector -/
theorem E2E_shlIn_eq (v : Vec) (hv : v.Inv) (b : Bool) (r : Bool) (hl : v.len < 2 ^ 64) :
    (Api.shlIn v b).1.abs = (Api.bitop .or (Api.shl v 1 r) (.uint 8 b.toNat)).abs := by
  have hb := E2E_aux_uint8_inv b.toNat (Nat.lt_of_le_of_lt (Bool.toNat_le b) (by decide))
  simp only [e2e, hv, hl, hb, Law_shlIn_fst _ _ (Vec.abs_wf hv)]
  exact Law_only_low_bits_or _ _ _ rfl

/-- non-vacuity: the hypotheses of the shift theorems hold for a 10-bit `Bvf<u8,2>` -/
example : (Vec.f 8 ⟨#[0xB7#8, 0x02#8], 10⟩ : Vec).Inv ∧ (Vec.f 8 ⟨#[0xB7#8, 0x02#8], 10⟩ : Vec).len < 2 ^ 64 :=
  ⟨⟨wok8, (Raw.invB_iff _ (by decide)).mp (by decide)⟩, by decide⟩

theorem E2E_rotl_rotl (v : Vec) (hv : v.Inv) (j k : Nat) (h : j + k ≤ v.len) :
    (Api.rotl (Api.rotl v j) k).Inv ∧ (Api.rotl (Api.rotl v j) k).abs = (Api.rotl v (j + k)).abs := by
  have hj : j ≤ v.len := Nat.le_trans (Nat.le_add_right j k) h
  have hk : k ≤ v.len := Nat.le_trans (Nat.le_add_left k j) h
  simp only [e2e, hv, hj, hk, h, Law_rotl_add _ _ _ (Vec.abs_wf hv) (Vec.abs_len v ▸ h), and_self]

theorem E2E_rotl_rotl_wrap (v : Vec) (hv : v.Inv) (j k : Nat) (hj : j ≤ v.len) (hk : k ≤ v.len) (h : v.len ≤ j + k) :
    (Api.rotl (Api.rotl v j) k).abs = (Api.rotl v (j + k - v.len)).abs := by
  have hjk : j + k - v.len ≤ v.len := Nat.sub_le_iff_le_add.mpr (Nat.add_le_add hj hk)
  simp only [e2e, hv, hj, hk, hjk]
  rw [← Vec.abs_len v] at hj hk h ⊢
  exact Law_rotl_add_wrap _ _ _ (Vec.abs_wf hv) hj hk h

theorem E2E_rotr_rotr (v : Vec) (hv : v.Inv) (j k : Nat) (h : j + k ≤ v.len) :
    (Api.rotr (Api.rotr v j) k).Inv ∧ (Api.rotr (Api.rotr v j) k).abs = (Api.rotr v (j + k)).abs := by
  have hj : j ≤ v.len := Nat.le_trans (Nat.le_add_right j k) h
  have hk : k ≤ v.len := Nat.le_trans (Nat.le_add_left k j) h
  simp only [e2e, hv, hj, hk, h, Law_rotr_add _ _ _ (Vec.abs_wf hv) (Vec.abs_len v ▸ h), and_self]

theorem E2E_rotl_eq_rotr (v : Vec) (hv : v.Inv) (k : Nat) (hk : k ≤ v.len) :
    (Api.rotl v k).abs = (Api.rotr v (v.len - k)).abs := by
  simp only [e2e, hv, hk, Nat.sub_le]
  rw [← Vec.abs_len v] at hk ⊢
  exact Law_rotl_eq_rotr _ _ (Vec.abs_wf hv) hk

/-- `rotr(k)` then `rotl(k)` is the identity; the other order is `C06_roundtrip` -/
theorem E2E_rotr_rotl (v : Vec) (hv : v.Inv) (k : Nat) (hk : k ≤ v.len) :
    (Api.rotl (Api.rotr v k) k).Inv ∧ (Api.rotl (Api.rotr v k) k).abs = v.abs := by
  simp only [e2e, hv, hk, BV.rotl_rotr v.abs k (Vec.abs_wf hv) (Vec.abs_len v ▸ hk), and_self]

theorem E2E_rotl_full (v : Vec) (hv : v.Inv) : (Api.rotl v v.len).abs = v.abs ∧ (Api.rotr v v.len).abs = v.abs := by
  simp only [e2e, hv, Nat.le_refl]
  rw [← Vec.abs_len v]
  exact ⟨Law_rotl_len _ (Vec.abs_wf hv), Law_rotr_len _ (Vec.abs_wf hv)⟩

/-- `rotl(k) = (v << k) | (v >> (len - k))`, whichever shift bodies are used -/
theorem E2E_rotl_shl_shr (v : Vec) (hv : v.Inv) (k : Nat) (hk : k ≤ v.len) (r1 r2 : Bool) (hl : v.len < 2 ^ 64) :
    (Api.rotl v k).abs = (Api.bitop .or (Api.shl v k r1) (.vec (Api.shr v (v.len - k) r2))).abs := by
  simp only [e2e, hv, hk, hl]
  rw [← Vec.abs_len v] at hk ⊢
  exact Law_rotl_shl_shr _ _ (Vec.abs_wf hv) hk

/-- non-vacuity: the hypotheses of `E2E_rotl_rotl` hold for a 6-bit `Bv::Fixed` with `j = 2`, `k = 3` -/
example : (Vec.a (.fixed ⟨#[0x1D#64, 0#64], 6⟩) : Vec).Inv ∧ 2 + 3 ≤ (Vec.a (.fixed ⟨#[0x1D#64, 0#64], 6⟩) : Vec).len :=
  ⟨⟨(Raw.invB_iff _ (by decide)).mp (by decide), rfl⟩, by decide⟩

theorem E2E_counts_not (v : Vec) (hv : v.Inv) (r : Bool) :
    Api.leadingZeros (Api.not v r) = Api.leadingOnes v ∧ Api.trailingZeros (Api.not v r) = Api.trailingOnes v := by
  simp only [e2e, hv]
  exact ⟨rfl, rfl⟩

theorem E2E_counts_not' (v : Vec) (hv : v.Inv) (r : Bool) :
    Api.leadingOnes (Api.not v r) = Api.leadingZeros v ∧ Api.trailingOnes (Api.not v r) = Api.trailingZeros v := by
  simp only [e2e, hv, Law_lo_eq_lz_not, Law_to_eq_tz_not, Law_not_not _ (Vec.abs_wf hv), and_self]

theorem E2E_tz_shl (v : Vec) (hv : v.Inv) (k : Nat) (r : Bool) (hl : v.len < 2 ^ 64) :
    Api.trailingZeros (Api.shl v k r) = min (Api.trailingZeros v + k) v.len := by
  simp only [e2e, hv, hl, Law_tz_shl, Vec.abs_len]

theorem E2E_lz_shr (v : Vec) (hv : v.Inv) (k : Nat) (r : Bool) (hl : v.len < 2 ^ 64) :
    Api.leadingZeros (Api.shr v k r) = min (Api.leadingZeros v + k) v.len ∧
    Api.sigBits (Api.shr v k r) = Api.sigBits v - k := by
  have hw := Vec.abs_wf hv
  simp only [e2e, hv, hl, Law_lz_shr _ _ hw, Law_sig_shr _ _ hw, Vec.abs_len, and_self]

/-- `v - v` is recognised as zero by `is_zero`, and has `len` leading zeros -/
theorem E2E_sub_self_isZero (v v' : Vec) (hv : v.Inv) (hv' : v'.Inv) (e : v'.abs = v.abs) :
    Api.isZero (Api.addsub true v (.vec v')) = true ∧ Api.leadingZeros (Api.addsub true v (.vec v')) = v.len := by
  have h := E2E_sub_self v v' hv hv' e
  simp only [C16_counts _ h.1, h.2, BV.zeros_leadingZeros]
  exact ⟨rfl, trivial⟩

/-- leading zeros plus significant bits of any result give its length; instance: of a product -/
theorem E2E_lz_sig_mul (v : Vec) (x : Api.Rhs) (hv : v.Inv) (hx : x.Inv) :
    Api.leadingZeros (Api.mul v x) + Api.sigBits (Api.mul v x) = v.len := by
  simp only [e2e, hv, hx, Law_lz_sig _ (Law_wf_mul _ _), BV.mul_len, Vec.abs_len]

/-- a left shift that does not push out a set bit adds `k` significant bits -/
theorem E2E_sig_shl (v : Vec) (hv : v.Inv) (k : Nat) (r : Bool) (hl : v.len < 2 ^ 64)
    (h0 : Api.isZero v = false) (h : Api.sigBits v + k ≤ v.len) :
    Api.sigBits (Api.shl v k r) = Api.sigBits v + k := by
  simp only [e2e, hv, hl] at h0 h ⊢
  refine Law_sig_shl _ _ (fun e => ?_) (Vec.abs_len v ▸ h)
  rw [(Law_isZero_iff_val _).mpr e] at h0
  exact Bool.noConfusion h0

example : Api.leadingZeros (Api.not (.d ⟨#[0xE5#64], 8⟩) true) = 3 := by decide

end Bva
