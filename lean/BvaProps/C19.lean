import BvaProofs.Parse
import BvaProps.C07
/-!
# C19 — fixed-capacity overflow and bad arguments are signalled, never silently absorbed

`s : Raw w` with `N = s.data.size` words is a `Bvf<I,N>`; capacity `N * w`.  After repair D10 the capacity
checks of `push`/`resize` are unconditional, so one model function describes debug and release builds
(the correspondence check runs both profiles against it).  The documented debug-assertion panics of
`get`/`set`/`copy_range`/`split_off` on out-of-range indices are part of the driver's step function
(`runOp`, flag `dbg`) and are checked by correspondence only (release behaviour is unspecified).
-/
namespace Bva
variable {w : Nat}

/-- a fixed vector never ends up with `len > capacity`: whatever an edit returns satisfies the invariant -/
theorem C19_never_over (v : Vec) (res : Res Vec) (spec : BV) (h : EditOk v res spec) (r : Vec) (e : res = .ok r) :
    r.len ≤ r.capBits ∧ r.Inv := by
  by_cases hf : v.fits spec.len
  · exact let p := Res.of_ok (h.1 hf) e; ⟨p.1.len_le_capBits, p.1⟩
  · cases e.symm.trans (h.2 hf)

/-- `zeros(n)` / `ones(n)` panic exactly when `n` exceeds the capacity -/
theorem C19_zeros_ones (N n : Nat) (hw : 0 < w) :
    (N * w < n → Bvf.zeros w N n = .panic ∧ Bvf.ones w N n = .panic) ∧
    (n ≤ N * w → (∃ r, Bvf.zeros w N n = .ok r ∧ r.Inv ∧ r.length = n ∧ r.data.size = N) ∧
                 (∃ r, Bvf.ones w N n = .ok r ∧ r.Inv ∧ r.length = n ∧ r.data.size = N)) := by
  refine ⟨fun h => ⟨Bvf.zeros_panic N n h, Bvf.ones_panic N n h⟩, fun h => ⟨?_, ?_⟩⟩
  · obtain ⟨r, e, hi, ha, hs⟩ := Bvf.zeros_ok (w := w) N n hw h
    exact ⟨r, e, hi, congrArg BV.len ha, hs⟩
  · obtain ⟨r, e, hi, ha, hs⟩ := Bvf.ones_ok (w := w) N n hw h
    exact ⟨r, e, hi, congrArg BV.len ha, hs⟩

/-- `push`, `resize`, `sign_extend`, `append`, `prepend`, `insert`, `extend` on a fixed vector panic exactly when the
resulting length would exceed the capacity, and otherwise return the L0 result (`EditOk`, proved in C07) -/
theorem C19_growth_signalled (s : Raw w) (hv : (Vec.f w s).Inv) (x : Vec) (hx : x.Inv) (b : Bool) (n i : Nat)
    (hi : i ≤ s.length) (bs : List Bool) :
    (Api.push (.f w s) b = .panic ↔ s.data.size * w < s.length + 1) ∧
    (Api.resize (.f w s) n b = .panic ↔ s.data.size * w < n) ∧
    (Api.append (.f w s) x.any = .panic ↔ s.data.size * w < s.length + x.len) ∧
    (Api.prepend (.f w s) x.any = .panic ↔ s.data.size * w < s.length + x.len) ∧
    (Api.insert (.f w s) i x.any = .panic ↔ s.data.size * w < s.length + x.len) ∧
    (Api.extend (.f w s) bs = .panic ↔ s.data.size * w < s.length + bs.length) := by
  have key : ∀ {res : Res Vec} {spec : BV} {n : Nat}, spec.len = n → EditOk (.f w s) res spec →
      (res = .panic ↔ s.data.size * w < n) := fun hn h =>
    hn ▸ h.panic_iff.trans Nat.not_le
  have hxl : s.length + x.abs.len = s.length + x.len := by rw [Vec.abs_len]
  exact ⟨key rfl (C07_push _ hv b), key (BV.resize_len _ _ _) (C07_resize _ hv n b),
    key hxl (C07_append _ x hv hx), key hxl (C07_prepend _ x hv hx),
    key hxl (C07_insert _ x hv hx i hi), key (BV.extend_len _ _) (C07_extend _ hv bs)⟩

/-- constructors and conversions beyond capacity return an error (never panic, never truncate) -/
theorem C19_constructor_errors (hw : WOk w) (N : Nat) :
    (∀ bytes big, N * w < bytes.length * 8 → Bvf.fromBytes w N bytes big = .err "NotEnoughCapacity") ∧
    (∀ cs, N * w < cs.length → Bvf.fromBinary w N cs = .err "NotEnoughCapacity") ∧
    (∀ cs, N * w < cs.length * 4 → Bvf.fromHex w N cs = .err "NotEnoughCapacity") ∧
    (∀ input length big, N * w < length → Bvf.read w N input length big = .err "InvalidInput") ∧
    (∀ W x, 1 ≤ N → x < 2 ^ W → N * w < BV.natBits x → Bvf.fromUInt w N W x = .err "NotEnoughCapacity") ∧
    (∀ wJ xs, WOk wJ → N * w < xs.length * wJ → Bvf.fromSlice w N wJ xs = .err "NotEnoughCapacity") ∧
    (∀ (x : Vec), x.Inv → N * w < x.len → Api.convert (.f w N) x = .err "NotEnoughCapacity") := by
  refine ⟨fun bytes big h => Bvf.fromBytes_err N bytes big h,
    fun cs h => (Bvf.fromBinary_spec hw.pos N cs).1 h,
    fun cs h => (Bvf.fromHex_spec hw.pos hw.four_dvd N cs).1 h,
    fun input length big h => Bvf.read_invalid N input length big h,
    fun W x hN hx h => (Bvf.fromUInt_spec N W x hw.pos hN hx).1 h,
    fun wJ xs hJ h => (Bvf.fromSlice_spec N xs (hw.compat hJ)).1 h,
    fun x hx h => congrArg (liftF _) ((Bvf.convert_spec N x.kind x.any (hx.any.srcOk hw)).1 (by rw [Vec.any_len]; exact h))⟩

end Bva
