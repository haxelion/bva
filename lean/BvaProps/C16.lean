import BvaProofs.Refine
/-!
# C16 — bit-count queries report exact run lengths for every vector
-/
namespace Bva

/-- all six queries of the model equal the L0 definitions on the abstraction (L1 refines L0) -/
theorem C16_counts (v : Vec) (hv : v.Inv) :
    Api.leadingZeros v = v.abs.leadingZeros ∧ Api.leadingOnes v = v.abs.leadingOnes ∧
    Api.trailingZeros v = v.abs.trailingZeros ∧ Api.trailingOnes v = v.abs.trailingOnes ∧
    Api.sigBits v = v.abs.sig ∧ Api.isZero v = v.abs.isZero := by
  refine ⟨Vec.withRaw_eq hv (·.leadingZeros) fun s hw hs => Raw.leadingZeros_eq s hw.pos hs,
    Vec.withRaw_eq hv (·.leadingOnes) fun s hw hs => Raw.leadingOnes_eq s hw.pos hs,
    Vec.withRaw_eq hv (·.trailingZeros) fun s hw hs => Raw.trailingZeros_eq s hw.pos hs,
    Vec.withRaw_eq hv (·.trailingOnes) fun s hw hs => Raw.trailingOnes_eq s hw.pos hs,
    Vec.withRaw_eq hv (·.sig) fun s hw hs => Raw.sigBits_eq s hw.pos hs, ?_⟩
  -- `is_zero` has a body per implementation
  rcases v with ⟨w, s⟩ | s | s | s
  · exact Bvf.isZero_eq s hv.1.pos hv.2
  · exact Bvd.isZero_eq s hv
  · exact Bvf.isZero_eq s (by decide) hv.1
  · exact Bvd.isZero_eq s hv

/-- what the L0 definitions mean in terms of bits (for a well-formed vector): the counts are exact run
lengths at the two ends, never exceed `len`, `leading_zeros + significant_bits = len`, and
`is_zero ⇔ significant_bits = 0`. -/
theorem C16_meaning (a : BV) (ha : a.WF) :
    a.leadingZeros + a.sig = a.len ∧ a.leadingZeros ≤ a.len ∧ a.trailingZeros ≤ a.len ∧
    a.leadingOnes ≤ a.len ∧ a.trailingOnes ≤ a.len ∧
    (a.isZero = true ↔ a.sig = 0) ∧
    -- leading zeros: everything from index len - lz up is 0, and the bit just below is 1 (if any)
    ((∀ i, a.len - a.leadingZeros ≤ i → a.bit i = false) ∧
      (a.leadingZeros < a.len → a.bit (a.len - a.leadingZeros - 1) = true)) ∧
    -- trailing zeros
    ((∀ i, i < a.trailingZeros → a.bit i = false) ∧ (a.trailingZeros < a.len → a.bit a.trailingZeros = true)) ∧
    -- leading ones
    ((∀ i, a.len - a.leadingOnes ≤ i → i < a.len → a.bit i = true) ∧
      (a.leadingOnes < a.len → a.bit (a.len - a.leadingOnes - 1) = false)) ∧
    -- trailing ones
    ((∀ i, i < a.trailingOnes → a.bit i = true) ∧ (a.trailingOnes < a.len → a.bit a.trailingOnes = false)) :=
  ⟨BV.leadingZeros_add_sig a ha, BV.leadingZeros_le_len a, BV.trailingZeros_le_len a,
   BV.leadingOnes_le_len a, BV.trailingOnes_le_len a, BV.isZero_iff_sig a,
   BV.bit_of_leadingZeros a ha,
   ⟨fun i hi => BV.bit_of_lt_trailingZeros a i hi, BV.bit_trailingZeros a⟩,
   BV.bit_of_leadingOnes a ha, BV.bit_of_trailingOnes a ha⟩

/-- a uniform zero vector of length `n` has `n` leading and `n` trailing zeros (0 for the empty vector) -/
theorem C16_uniform (n : Nat) : (BV.zeros n).leadingZeros = n ∧ (BV.zeros n).trailingZeros = n :=
  ⟨BV.zeros_leadingZeros n, BV.zeros_trailingZeros n⟩

example : (BV.mk 7 0b0010100).leadingZeros = 2 ∧ (BV.mk 7 0b0010100).trailingZeros = 2 ∧ (BV.mk 7 0b0010100).sig = 5 := by decide

end Bva
