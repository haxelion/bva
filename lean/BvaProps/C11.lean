import BvaProofs.Refine
/-!
# C11 — conversions to and from native integers preserve value and report overflow

`W` is the width of the native type (8, 16, 32, 64, 128; `usize` = 64), `x < 2^W` its value.
By-value and by-reference forms are the same model function (the `&uN` / owned-vector impls delegate;
the harness asserts they agree on every case).
-/
namespace Bva

/-- integer → vector: value `x`, length `W` (`min W capacity` for fixed vectors); `NotEnoughCapacity`
exactly when `x` has more significant bits than a fixed capacity; never for the dynamic and auto types. -/
theorem C11_from_uint (t : Ty) (W x : Nat) (hW : WOk W) (h128 : W ≤ 128) (hx : x < 2 ^ W)
    (ht : match t with | .f w N => WOk w ∧ 1 ≤ N | _ => True) :
    match t with
    | .f w N =>
      (N * w < BV.natBits x → Api.fromUInt t W x = .err "NotEnoughCapacity") ∧
      (BV.natBits x ≤ N * w → ∃ r, Api.fromUInt t W x = .ok r ∧ r.Inv ∧ r.abs = ⟨min W (N * w), x⟩ ∧ r.ty = t)
    | _ => ∃ r, Api.fromUInt t W x = .ok r ∧ r.Inv ∧ r.abs = ⟨W, x⟩ ∧ r.ty = t := by
  cases t with
  | f w N =>
    have s := Bvf.fromUInt_spec (w := w) N W x ht.1.pos ht.2 hx
    exact ⟨fun h => congrArg (liftF _) (s.1 h), fun h => liftF_ok ht.1 (s.2 (Nat.not_lt.mpr h))⟩
  | d => exact Vec.ok_d (Bvd.fromUInt_refines W x hW.le64_or_dvd hx)
  | a => exact Vec.ok_a (Bv.fromUInt_refines W x (Or.inl h128) hx)

/-- vector → integer: the value when `significant_bits ≤ W`, `NotEnoughCapacity` otherwise; never a panic,
also for empty vectors (repair D7) -/
theorem C11_to_uint (v : Vec) (hv : v.Inv) (W : Nat) (hW : WOk W) :
    Api.toUInt v W = if v.abs.sig ≤ W then .ok v.abs.val else .err "NotEnoughCapacity" := by
  cases v with
  | f w s => exact Bvf.toUInt_spec s W (hv.1.compat hW) hv.2
  | d s => exact Bvd.toUInt_spec s W hv
  | a c => exact Bv.toUInt_spec c W (wok64.compat hW) hv.bvinv

/-- slice of integers → vector: element 0 least significant, length `count · width`;
`NotEnoughCapacity` exactly when that exceeds a fixed capacity -/
theorem C11_from_slice (t : Ty) (wJ : Nat) (xs : List Nat) (hJ : WOk wJ)
    (ht : match t with | .f w _ => WOk w | _ => True) :
    match t with
    | .f w N =>
      (N * w < xs.length * wJ → Api.fromSlice t wJ xs = .err "NotEnoughCapacity") ∧
      (xs.length * wJ ≤ N * w → ∃ r, Api.fromSlice t wJ xs = .ok r ∧ r.Inv ∧
          r.abs = ⟨xs.length * wJ, cnv_sliceVal wJ xs⟩ ∧ r.ty = t)
    | _ => ∃ r, Api.fromSlice t wJ xs = .ok r ∧ r.Inv ∧ r.abs = ⟨xs.length * wJ, cnv_sliceVal wJ xs⟩ ∧ r.ty = t := by
  cases t with
  | f w N =>
    have s := Bvf.fromSlice_spec (w := w) N xs (ht.compat hJ)
    exact ⟨fun h => congrArg (liftF _) (s.1 h), fun h => liftF_ok ht (s.2 (Nat.not_lt.mpr h))⟩
  | d => exact Vec.ok_d (Bvd.fromSlice_refines xs (wok64.compat hJ))
  | a => exact Vec.ok_a (Bv.fromSlice_refines xs (wok64.compat hJ))

/-- the value of a slice is the concatenation with element 0 least significant: `Σ x_j · 2^(wJ·j)` -/
theorem C11_slice_value (wJ : Nat) (xs : List Nat) (hx : ∀ x ∈ xs, x < 2 ^ wJ) :
    cnv_sliceVal wJ xs = cnv_sliceSum wJ xs := cnv_sliceVal_eq_sum wJ xs hx

/-- whatever `from_uint` returns as `ok` satisfies the invariant and is `x` at some length -/
theorem Api.fromUInt_ok (t : Ty) (W x : Nat) (hW : WOk W) (h128 : W ≤ 128) (hx : x < 2 ^ W)
    (ht : match t with | .f w N => WOk w ∧ 1 ≤ N | _ => True) (r : Vec) (hr : Api.fromUInt t W x = .ok r) :
    r.Inv ∧ ∃ l, r.abs = ⟨l, x⟩ := by
  have hspec := C11_from_uint t W x hW h128 hx ht
  cases t with
  | f w N => exact let p := Res.of_ok_or_err (Nat.lt_or_ge _ _) hspec hr; ⟨p.1, _, p.2.1⟩
  | d | a => exact let p := Res.of_ok hspec hr; ⟨p.1, _, p.2.1⟩

/-- round trip: an integer converted to a vector and back is the same integer -/
theorem C11_roundtrip (t : Ty) (W x : Nat) (hW : WOk W) (h128 : W ≤ 128) (hx : x < 2 ^ W)
    (ht : match t with | .f w N => WOk w ∧ 1 ≤ N | _ => True) (r : Vec) (hr : Api.fromUInt t W x = .ok r) :
    Api.toUInt r W = .ok x := by
  obtain ⟨hi, l, ha⟩ := Api.fromUInt_ok t W x hW h128 hx ht r hr
  rw [C11_to_uint r hi W hW, ha]
  exact if_pos ((BV.natBits_le_iff x W).mpr hx)

end Bva
