import BvaProofs.Refine
import BvaProofs.Fmt
import BvaProofs.Dec
/-!
# C14 — text formatting matches Rust's formatting of the same unsigned integer

bva's `Binary`/`Octal`/`LowerHex`/`UpperHex`/`Display` impls compute a digit string and hand it to
`Formatter::pad_integral(true, prefix, digits)` — the same std routine, with the same arguments, that
formats primitive integers.  `Api.digits v kind` is that digit string.
PROVED here: for `{:b}`, `{:o}`, `{:x}`, `{:X}` and `{}` (decimal, through repeated `div_rem` by ten) the digit
string is the canonical numeral of the value (minimal digits, `"0"` for zero-valued and empty vectors), hence
depends on the value only; and the whole formatted string is `padIntegral spec prefix digits`, where
`Api.padIntegral` is a model of std's `Formatter::pad_integral` written from its source.
NOT proved: that `Api.padIntegral` *is* std's routine (trusted; the correspondence check compares whole strings under
26 format specs × 5 traits with the model, and with `format!` of the same value as a `u128` when it fits).
-/
namespace Bva

/-- binary, octal and hexadecimal digit strings are the canonical numerals of the unsigned value -/
theorem C14_digits (v : Vec) (hv : v.Inv) :
    Api.digits v 'b' = BV.numeral 2 false v.abs.val ∧
    Api.digits v 'o' = BV.numeral 8 false v.abs.val ∧
    Api.digits v 'x' = BV.numeral 16 false v.abs.val ∧
    Api.digits v 'X' = BV.numeral 16 true v.abs.val :=
  ⟨Vec.withRaw_eq hv (BV.numeral 2 false ·.val) fun s hw hs => Raw.binDigits_eq s hw.pos hs,
    Vec.withRaw_eq hv (BV.numeral 8 false ·.val) fun s hw hs => Raw.octDigits_eq s hw.pos hs,
    Vec.withRaw_eq hv (BV.numeral 16 false ·.val) fun s hw hs => Raw.hexDigits_eq s hw.pos hw.four_dvd hs false,
    Vec.withRaw_eq hv (BV.numeral 16 true ·.val) fun s hw hs => Raw.hexDigits_eq s hw.pos hw.four_dvd hs true⟩

/-- decimal (`Display`): the digit string produced by the repeated-division loop is the canonical decimal numeral
(`N ≥ 1`: `Bvf<I,0>` is outside the scope) -/
theorem C14_decimal (v : Vec) (hv : v.Inv) (hN : match v with | .f _ s => 1 ≤ s.data.size | _ => True) :
    Api.digits v 'd' = BV.numeral 10 false v.abs.val := by
  cases v with
  | f w s =>
    -- `Compat w 32`: each digit is read back by `to_u32`
    exact Bvf.decDigits_eq s hv.1.eight_le (hv.1.compat (⟨2, by decide⟩ : WOk 32)) hN hv.2
  | d s => exact Bvd.decDigits_eq s hv
  | a c => exact Bv.decDigits_eq c hv.bvinv

/-- the whole output string under any format spec is `pad_integral` applied to the canonical numeral, so it depends
on the value only — for all five traits -/
theorem C14_format (v : Vec) (hv : v.Inv) (hN : match v with | .f _ s => 1 ≤ s.data.size | _ => True)
    (k : Char) (hk : k = 'b' ∨ k = 'o' ∨ k = 'x' ∨ k = 'X' ∨ k = 'd') (sp : Api.FmtSpec) :
    Api.format v k sp = Api.padIntegral sp (Api.fmtPrefix k)
      (BV.numeral (if k = 'b' then 2 else if k = 'o' then 8 else if k = 'd' then 10 else 16) (k == 'X') v.abs.val) := by
  have a := C14_digits v hv
  have d := C14_decimal v hv hN
  unfold Api.format
  rcases hk with rfl | rfl | rfl | rfl | rfl
  · rw [a.1]; rfl
  · rw [a.2.1]; rfl
  · rw [a.2.2.1]; rfl
  · rw [a.2.2.2]; rfl
  · rw [d]; rfl

/-- the canonical numeral: `"0"` for zero, otherwise no leading zero; only valid digits; it evaluates back to
the value; distinct values give distinct strings — for every base 2..16 -/
theorem C14_canonical (base : Nat) (upper : Bool) (hb : 2 ≤ base) (hb' : base ≤ 16) (v : Nat) :
    (v = 0 → BV.numeral base upper v = ['0']) ∧
    (v ≠ 0 → ∃ c cs, BV.numeral base upper v = c :: cs ∧ c ≠ '0') ∧
    (∀ c ∈ BV.numeral base upper v, ∃ d, d < base ∧ c = BV.digitChar upper d) ∧
    fmt_digitsVal base (BV.numeral base upper v) = v :=
  ⟨fun h => by rw [h]; exact BV.numeral_zero base upper, BV.numeral_head base upper hb hb' v,
   BV.numeral_valid base upper hb v, BV.numeral_digitsVal base upper hb hb' v⟩

/-- the output depends only on the value, not on length, implementation or word type -/
theorem C14_value_only (v v' : Vec) (hv : v.Inv) (hv' : v'.Inv) (h : v.abs.val = v'.abs.val) (k : Char)
    (hk : k = 'b' ∨ k = 'o' ∨ k = 'x' ∨ k = 'X') : Api.digits v k = Api.digits v' k := by
  have a := C14_digits v hv
  have b := C14_digits v' hv'
  rcases hk with rfl | rfl | rfl | rfl
  · rw [a.1, b.1, h]
  · rw [a.2.1, b.2.1, h]
  · rw [a.2.2.1, b.2.2.1, h]
  · rw [a.2.2.2, b.2.2.2, h]

example : BV.numeral 16 true 0xBEEF = ['B', 'E', 'E', 'F'] ∧ BV.numeral 8 false 0 = ['0'] := by decide

end Bva
