import BvaProofs.Refine
/-!
# C12 — conversions between implementations preserve length and every bit
`Api.convert t src` models `T::try_from(&src)` / `T::from(&src)` / the by-value forms (which delegate) for a
target type `t` and a source of any implementation, word width, length, spare capacity and storage mode.
-/
namespace Bva

/-- converting into a fixed type: `NotEnoughCapacity` exactly when the source length exceeds the capacity,
otherwise the same length and the same bits; converting into `Bvd` or `Bv` never fails. -/
theorem C12_convert (t : Ty) (src : Vec) (hs : src.Inv) (ht : match t with | .f w _ => WOk w | _ => True) :
    match t with
    | .f w N =>
      (N * w < src.len → Api.convert t src = .err "NotEnoughCapacity") ∧
      (src.len ≤ N * w → ∃ r, Api.convert t src = .ok r ∧ r.Inv ∧ r.abs = src.abs ∧ r.ty = t)
    | _ => ∃ r, Api.convert t src = .ok r ∧ r.Inv ∧ r.abs = src.abs ∧ r.ty = t := by
  rw [← Vec.any_len src, ← Vec.any_abs src]
  cases t with
  | f w N =>
    have s := Bvf.convert_spec (w := w) N src.kind src.any (hs.any.srcOk ht)
    exact ⟨fun h => congrArg (liftF _) (s.1 h), fun h => liftF_ok ht (s.2 (Nat.not_lt.mpr h))⟩
  | d => exact Vec.ok_d (Bvd.convert_refines src.any (hs.any.srcOk wok64))
  | a => exact Vec.ok_a (Bv.convert_refines src.kind src.any hs.any.div (hs.any.compat wok64) hs.kind_bv)

/-- `new(into_inner(v)) = v`: both are the identity on the pair (storage, length) — the model *is* that pair -/
theorem C12_new_into_inner {w : Nat} (s : Raw w) : (⟨s.data, s.length⟩ : Raw w) = s := rfl

/-- whatever `convert` returns as `ok` is the specified vector: an error is the only other outcome -/
theorem Api.convert_ok (t : Ty) (src r : Vec) (hs : src.Inv) (ht : match t with | .f w _ => WOk w | _ => True)
    (h : Api.convert t src = .ok r) : r.Inv ∧ r.abs = src.abs ∧ r.ty = t := by
  have c := C12_convert t src hs ht
  cases t with
  | f w N => exact Res.of_ok_or_err (Nat.lt_or_ge _ _) c h
  | d | a => exact Res.of_ok c h

/-- a chain of conversions that all fit gives back a vector equal (in the sense of C09) to the original -/
theorem C12_roundtrip_value (t : Ty) (src r : Vec) (hs : src.Inv) (ht : match t with | .f w _ => WOk w | _ => True)
    (h : Api.convert t src = .ok r) : r.abs = src.abs := (Api.convert_ok t src r hs ht h).2.1

end Bva
