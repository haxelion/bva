import BvaProofs.Refine
/-!
# C13 — byte and stream serialisation is exact for both endiannesses

Bytes are natural numbers `< 256`; `big : Bool` is the endianness.  `write(w, e)` is `w.write_all(to_vec(e))`
(the harness asserts the two agree on every case); `read` consumes from a byte list and returns the rest.
`Read`/`Write` implementations other than slices/`Vec` (partial reads, `Interrupted`) are `read_exact`'s /
`write_all`'s business (std, trusted).
-/
namespace Bva

/-- `to_vec(e)`: exactly `ceil(len/8)` bytes; for Little byte `j` carries bits `8j … 8j+7`; Big is the reverse -/
theorem C13_to_vec (v : Vec) (hv : v.Inv) (big : Bool) :
    Api.toVec v big = v.abs.toVec big ∧ (v.abs.toVec big).length = (v.len + 7) / 8 ∧
    (∀ b ∈ v.abs.toVec big, b < 256) :=
  ⟨Vec.withRaw_eq hv (·.toVec big) fun s hw _ => Raw.toVec_eq s hw.eight_dvd hw.pos big,
   by rw [BV.length_toVec, Vec.abs_len], BV.toVec_lt _ _⟩

/-- L0 meaning of the little-endian bytes: byte `j` is `(val >> 8j) mod 256`, so its bit `k` is bit `8j+k` of the
vector, and the unused high bits of the last byte are zero (because `val < 2^len`) -/
theorem C13_bytes_meaning (a : BV) (j : Nat) (hj : j < (a.len + 7) / 8) :
    (a.toVec false).getD j 0 = (a.val >>> (8 * j)) % 256 := by
  show (BV.natBytesLE a.val ((a.len + 7) / 8)).getD j 0 = _
  rw [BV.natBytesLE_eq_map, List.getD_eq_getElem?_getD, List.getElem?_map, List.getElem?_range hj]
  rfl

/-- `from_bytes(bytes, e)`: length `8·|bytes|`, the inverse packing; `NotEnoughCapacity` beyond a fixed capacity -/
theorem C13_from_bytes (t : Ty) (bytes : List Nat) (big : Bool) (hb : ∀ b ∈ bytes, b < 256)
    (ht : match t with | .f w _ => WOk w | _ => True) :
    match t with
    | .f w N =>
      (N * w < bytes.length * 8 → Api.fromBytes t bytes big = .err "NotEnoughCapacity") ∧
      (bytes.length * 8 ≤ N * w → ∃ r, Api.fromBytes t bytes big = .ok r ∧ r.Inv ∧ r.abs = BV.fromBytes bytes big ∧ r.ty = t)
    | _ => ∃ r, Api.fromBytes t bytes big = .ok r ∧ r.Inv ∧ r.abs = BV.fromBytes bytes big ∧ r.ty = t := by
  cases t with
  | f w N =>
    refine ⟨fun h => congrArg (liftF _) (Bvf.fromBytes_err N bytes big h), fun h => ?_⟩
    obtain ⟨r, e, hi, ha, hs, _⟩ := Bvf.fromBytes_ok (w := w) N bytes big ht.eight_dvd ht.pos hb h
    exact liftF_ok ht ⟨r, e, hi, ha, hs⟩
  | d => exact Vec.ok_d (Bvd.fromBytes_refines bytes big hb)
  | a =>
    obtain ⟨r, e, hi, ha, _⟩ := Bv.fromBytes_spec bytes big hb
    exact liftA_ok ⟨r, e, hi, ha⟩

/-- `read(r, len, e)`: `Err` (never a panic) on insufficient fixed capacity or short input; otherwise consumes exactly
`ceil(len/8)` bytes and returns exactly `len` bits, the surplus high bits of the most significant byte discarded (repair D8) -/
theorem C13_read (t : Ty) (input : List Nat) (length : Nat) (big : Bool) (hb : ∀ b ∈ input, b < 256)
    (ht : match t with | .f w _ => WOk w | _ => True) :
    ((match t with | .f w N => N * w < length | _ => False) → Api.read t input length big = .err "InvalidInput") ∧
    ((match t with | .f w N => length ≤ N * w | _ => True) →
      (input.length < (length + 7) / 8 → Api.read t input length big = .err "UnexpectedEof") ∧
      ((length + 7) / 8 ≤ input.length →
        ∃ r, Api.read t input length big = .ok (r, input.drop ((length + 7) / 8)) ∧ r.Inv ∧
          r.abs = ⟨length, (BV.fromBytes (input.take ((length + 7) / 8)) big).val % 2 ^ length⟩ ∧ r.ty = t)) := by
  cases t with
  | f w N =>
    refine ⟨fun h => congrArg (Res.map _) (Bvf.read_invalid N input length big h), fun hc => ⟨fun hs => ?_, fun hs => ?_⟩⟩
    · exact congrArg (Res.map _) (Bvf.read_eof N input length big hc hs)
    · obtain ⟨r, e, hi, ha, hsz, _⟩ := Bvf.read_ok (w := w) N input length big ht.eight_dvd ht.pos hb hc hs
      exact ⟨.f w r, congrArg (Res.map _) e, ⟨ht, hi⟩, ha, congrArg (Ty.f w) hsz⟩
  | d =>
    refine ⟨fun h => h.elim, fun _ => ⟨fun hs => ?_, fun hs => ?_⟩⟩
    · exact congrArg (Res.map _) (Bvd.read_eof input length big hs)
    · obtain ⟨r, e, hi, ha, _⟩ := Bvd.read_ok input length big hb hs
      exact ⟨.d r, congrArg (Res.map _) e, hi, ha, rfl⟩
  | a =>
    have s := Bv.read_spec input length big hb
    refine ⟨fun h => h.elim, fun _ => ⟨fun hs => ?_, fun hs => ?_⟩⟩
    · exact congrArg (Res.map _) (s.1 hs)
    · obtain ⟨r, e, hi, ha, _⟩ := s.2 hs
      exact ⟨.a r, congrArg (Res.map _) e, Vec.inv_a.mpr hi, ha, rfl⟩

/-- round trips: `from_bytes(to_vec(v))` is `v` zero-extended to whole bytes; reading back `len` bits of `to_vec(v)`
gives exactly `v` -/
theorem C13_roundtrip (a : BV) (ha : a.WF) (big : Bool) :
    BV.fromBytes (a.toVec big) big = ⟨8 * ((a.len + 7) / 8), a.val⟩ ∧
    (⟨a.len, (BV.fromBytes (a.toVec big) big).val % 2 ^ a.len⟩ : BV) = a := by
  refine ⟨BV.fromBytes_toVec a ha big, ?_⟩
  rw [BV.fromBytes_toVec_val a ha big]

end Bva
