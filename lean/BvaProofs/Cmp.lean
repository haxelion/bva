import BvaProofs.Operand
/-!
# Comparison: `cmpWords` / word-wise equality are numeric comparison of the fetched value; for operands that satisfy
their invariant that is `abs.val`, whatever the two storage forms (the matrix at the end)
-/
namespace Bva

theorem lt_of_digit_lt {P A B x y : Nat} (hA : A < P) (hxy : x < y) : A + P * x < B + P * y :=
  Nat.lt_of_lt_of_le (add_mul_lt_mul hA hxy) (Nat.le_add_left _ _)

theorem compare_add_right (A B c : Nat) : compare (A + c) (B + c) = compare A B := by
  rw [Nat.compare_eq_ite_lt, Nat.compare_eq_ite_lt A]
  simp only [Nat.add_lt_add_iff_right]

/-- the test `r >= d` of the division loops, as the model writes it -/
theorem compare_bne_lt (a b : Nat) : (compare a b != Ordering.lt) = decide (b ≤ a) := by
  rw [Bool.eq_iff_iff, bne_iff_ne, decide_eq_true_iff, Ne, Nat.compare_eq_lt, Nat.not_lt]

/-- the most-significant-first word comparison of `Bvf::cmp` / `Bvd::cmp` is numeric comparison of the fetched values -/
theorem cmpWords_eq {wJ : Nat} (a b : Nat → BitVec wJ) (n : Nat) :
    Bvf.cmpWords a b n = compare (valF a n) (valF b n) := by
  induction n with
  | zero => simp [Bvf.cmpWords, valF]
  | succ n ih =>
    simp only [Bvf.cmpWords, valF]
    have hA := valF_lt a n
    have hB := valF_lt b n
    rcases Nat.lt_trichotomy (a n).toNat (b n).toNat with h | h | h
    · have h1 := lt_of_digit_lt (B := valF b n) hA h
      rw [Nat.compare_eq_lt.mpr h, Nat.compare_eq_lt.mpr h1]
    · rw [h, Nat.compare_eq_eq.mpr rfl, ih, compare_add_right]
    · have h1 := lt_of_digit_lt (B := valF a n) hB h
      rw [Nat.compare_eq_gt.mpr h, Nat.compare_eq_gt.mpr h1]

theorem eq_of_fetch {wJ : Nat} (a b : Nat → BitVec wJ) (n A B : Nat)
    (hA : valF a n = A) (hB : valF b n = B) :
    (List.range n).all (fun i => a i == b i) = decide (A = B) := by
  rw [← hA, ← hB, Bool.eq_iff_iff, List.all_eq_true, decide_eq_true_eq, valF_eq_iff]
  simp only [List.mem_range, beq_iff_eq]

theorem cmp_of_fetch {wJ : Nat} (a b : Nat → BitVec wJ) (n A B : Nat)
    (hA : valF a n = A) (hB : valF b n = B) :
    Bvf.cmpWords a b n = compare A B := by
  rw [cmpWords_eq, hA, hB]

theorem valF_wd_of_size_le {w : Nat} (s : Raw w) (n : Nat) (hn : s.data.size ≤ n) :
    valF (wd s.data) n = s.abs.val := by
  obtain ⟨k, rfl⟩ := Nat.exists_eq_add_of_le hn
  rw [valF_zero_tail _ _ _ (fun t ht => wd_oob s.data t ht), valF_wd]
  rfl

theorem valF_wd_of_inv {w : Nat} (s : Raw w) (hw : 0 < w) (h : s.Inv) (n : Nat)
    (hn : s.length ≤ n * w) : valF (wd s.data) n = s.abs.val := by
  rw [valF_wd, h.valUpTo_eq hw n (Nat.mul_comm n w ▸ hn)]

theorem Bvd.eqBvd_eq_any (s o : Raw 64) : Bvd.eqBvd s o = decide (s.abs.val = o.abs.val) :=
  eq_of_fetch _ _ _ _ _ (valF_wd_of_size_le s _ (Nat.le_max_left _ _))
    (valF_wd_of_size_le o _ (Nat.le_max_right _ _))

theorem Bvd.cmpBvd_eq_any (s o : Raw 64) : Bvd.cmpBvd s o = compare s.abs.val o.abs.val :=
  cmp_of_fetch _ _ _ _ _ (valF_wd_of_size_le s _ (Nat.le_max_left _ _))
    (valF_wd_of_size_le o _ (Nat.le_max_right _ _))

theorem Bvd.cmpBvd_eq (s o : Raw 64) (_hs : s.Inv) (_ho : o.Inv) :
    Bvd.cmpBvd s o = compare s.abs.val o.abs.val := Bvd.cmpBvd_eq_any s o

theorem Bvf.eqBvf_eq_of_fetch {w w1 : Nat} (s : Raw w) (o : Raw w1)
    (hA : valF (fun i => (s.getInt w1 i).getD 0#w1) (max (s.intLen w1) (o.intLen w1)) = s.abs.val)
    (hB : valF (fun i => (o.getInt w1 i).getD 0#w1) (max (s.intLen w1) (o.intLen w1)) = o.abs.val) :
    Bvf.eqBvf s o = decide (s.abs.val = o.abs.val) :=
  eq_of_fetch _ _ _ _ _ hA hB

theorem Bvf.cmpBvf_eq_of_fetch {w w1 : Nat} (s : Raw w) (o : Raw w1)
    (hA : valF (fun i => (s.getInt w1 i).getD 0#w1) (max (s.intLen w1) (o.intLen w1)) = s.abs.val)
    (hB : valF (fun i => (o.getInt w1 i).getD 0#w1) (max (s.intLen w1) (o.intLen w1)) = o.abs.val) :
    Bvf.cmpBvf s o = compare s.abs.val o.abs.val :=
  cmp_of_fetch _ _ _ _ _ hA hB

/-- the `Bvd` side needs only `Inv`: the loop runs over `max length …` words, which cover `length` bits -/
theorem Bvd.eqBvf_eq_of_fetch {w1 : Nat} (s : Raw 64) (o : Raw w1) (hs : s.Inv)
    (hB : valF (fun i => (o.getInt 64 i).getD 0#64) (max s.length (o.intLen 64)) = o.abs.val) :
    Bvd.eqBvf s o = decide (s.abs.val = o.abs.val) :=
  eq_of_fetch _ _ _ _ _ (valF_wd_of_inv s (by decide) hs _
    (Nat.le_trans (Nat.le_max_left _ _) (Nat.le_mul_of_pos_right _ (by decide)))) hB

theorem Bvd.cmpBvf_eq_of_fetch {w1 : Nat} (s : Raw 64) (o : Raw w1) (hs : s.Inv)
    (hB : valF (fun i => (o.getInt 64 i).getD 0#64) (max s.length (o.intLen 64)) = o.abs.val) :
    Bvd.cmpBvf s o = compare s.abs.val o.abs.val :=
  cmp_of_fetch _ _ _ _ _ (valF_wd_of_inv s (by decide) hs _
    (Nat.le_trans (Nat.le_max_left _ _) (Nat.le_mul_of_pos_right _ (by decide)))) hB

theorem natCmp_lt_iff (a b : Nat) : compare a b = .lt ↔ a < b := Nat.compare_eq_lt

theorem natCmp_gt_iff (a b : Nat) : compare a b = .gt ↔ b < a := Nat.compare_eq_gt

theorem natCmp_total (a b : Nat) : compare a b = .lt ∨ compare a b = .eq ∨ compare a b = .gt := by
  rcases Nat.lt_trichotomy a b with h | h | h
  · exact Or.inl (Nat.compare_eq_lt.mpr h)
  · exact Or.inr (Or.inl (Nat.compare_eq_eq.mpr h))
  · exact Or.inr (Or.inr (Nat.compare_eq_gt.mpr h))

theorem natCmp_le_total (a b : Nat) : compare a b ≠ .gt ∨ compare b a ≠ .gt :=
  (Nat.le_total a b).imp Nat.compare_ne_gt.mpr Nat.compare_ne_gt.mpr

theorem natCmp_lt_trans {a b c : Nat} (h1 : compare a b = .lt) (h2 : compare b c = .lt) :
    compare a c = .lt :=
  Nat.compare_eq_lt.mpr (Nat.lt_trans (Nat.compare_eq_lt.mp h1) (Nat.compare_eq_lt.mp h2))

theorem natCmp_gt_trans {a b c : Nat} (h1 : compare a b = .gt) (h2 : compare b c = .gt) :
    compare a c = .gt :=
  Nat.compare_eq_gt.mpr (Nat.lt_trans (Nat.compare_eq_gt.mp h2) (Nat.compare_eq_gt.mp h1))

theorem natCmp_eq_trans {a b c : Nat} (h1 : compare a b = .eq) (h2 : compare b c = .eq) :
    compare a c = .eq :=
  Nat.compare_eq_eq.mpr ((Nat.compare_eq_eq.mp h1).trans (Nat.compare_eq_eq.mp h2))

theorem natCmp_le_trans {a b c : Nat} (h1 : compare a b ≠ .gt) (h2 : compare b c ≠ .gt) :
    compare a c ≠ .gt :=
  Nat.compare_ne_gt.mpr (Nat.le_trans (Nat.compare_ne_gt.mp h1) (Nat.compare_ne_gt.mp h2))

theorem natCmp_beq (a b : Nat) : decide (a = b) = (compare a b == .eq) := by
  rw [Bool.eq_iff_iff, decide_eq_true_iff, beq_iff_eq, Nat.compare_eq_eq]

theorem Bvd.cmpBvd_refl (s : Raw 64) : Bvd.cmpBvd s s = .eq := by
  rw [Bvd.cmpBvd_eq_any]; exact Nat.compare_eq_eq.mpr rfl

theorem Bvd.cmpBvd_swap (s o : Raw 64) : (Bvd.cmpBvd s o).swap = Bvd.cmpBvd o s := by
  rw [Bvd.cmpBvd_eq_any, Bvd.cmpBvd_eq_any]; exact Nat.compare_swap _ _

theorem Bvd.cmpBvd_le_trans {s o t : Raw 64} (h1 : Bvd.cmpBvd s o ≠ .gt) (h2 : Bvd.cmpBvd o t ≠ .gt) :
    Bvd.cmpBvd s t ≠ .gt := by
  rw [Bvd.cmpBvd_eq_any] at *; exact natCmp_le_trans h1 h2

theorem Bvd.cmpBvd_lt_trans {s o t : Raw 64} (h1 : Bvd.cmpBvd s o = .lt) (h2 : Bvd.cmpBvd o t = .lt) :
    Bvd.cmpBvd s t = .lt := by
  rw [Bvd.cmpBvd_eq_any] at *; exact natCmp_lt_trans h1 h2

theorem Bvd.cmpBvd_eq_iff (s o : Raw 64) : Bvd.cmpBvd s o = .eq ↔ s.abs.val = o.abs.val := by
  rw [Bvd.cmpBvd_eq_any]; exact Nat.compare_eq_eq

theorem Bvd.eqBvd_eq_cmpBvd (s o : Raw 64) : Bvd.eqBvd s o = (Bvd.cmpBvd s o == .eq) := by
  rw [Bvd.eqBvd_eq_any, Bvd.cmpBvd_eq_any]; exact natCmp_beq _ _

/-! `==` and `partial_cmp` compare the values: the fetch hypotheses of the lemmas above hold because re-chunked words
carry the operand's value (`spl_Src.valF_eq`). -/

theorem Bvf.eqcmp_num {w w1 : Nat} (a : Raw w) (b : Raw w1) (hc : Compat w w1) (ha : a.Inv) (hb : b.Inv) :
    Bvf.eqBvf a b = decide (a.abs.val = b.abs.val) ∧ Bvf.cmpBvf a b = compare a.abs.val b.abs.val := by
  have hw1 := hc.2.1
  have hA := (spl_Src.of_f a hc ha).valF_eq hw1 (max (a.intLen w1) (b.intLen w1))
    (Nat.le_trans (le_mul_cap a.length hw1) (Nat.mul_le_mul_left w1 (Nat.le_max_left ..)))
  have hB := (spl_Src.of_f b (.refl hw1) hb).valF_eq hw1 (max (a.intLen w1) (b.intLen w1))
    (Nat.le_trans (le_mul_cap b.length hw1) (Nat.mul_le_mul_left w1 (Nat.le_max_right ..)))
  exact ⟨Bvf.eqBvf_eq_of_fetch a b hA hB, Bvf.cmpBvf_eq_of_fetch a b hA hB⟩

theorem Bvd.eqcmp_bvf_num {w1 : Nat} (a : Raw 64) (b : Raw w1) (hc : Compat w1 64) (ha : a.Inv) (hb : b.Inv) :
    Bvd.eqBvf a b = decide (a.abs.val = b.abs.val) ∧ Bvd.cmpBvf a b = compare a.abs.val b.abs.val := by
  have hB := (spl_Src.of_f b hc hb).valF_eq (by decide) (max a.length (b.intLen 64))
    (Nat.le_trans (le_mul_cap b.length (by decide)) (Nat.mul_le_mul_left 64 (Nat.le_max_right ..)))
  exact ⟨Bvd.eqBvf_eq_of_fetch a b ha hB, Bvd.cmpBvf_eq_of_fetch a b ha hB⟩

/-- the delegations `other.eq(self)` / `other.partial_cmp(self).map(reverse)` -/
theorem eqcmp_swap {e : Bool} {c : Ordering} {a b : Nat} (h : e = decide (b = a) ∧ c = compare b a) :
    e = decide (a = b) ∧ c.swap = compare a b :=
  ⟨h.1.trans (decide_eq_decide.mpr eq_comm), by rw [h.2, Nat.compare_swap]⟩

theorem Bv.eqcmp_any_num (a : Bv) (x : AnyBv) (ha : div_BvInv a) (hx : div_AnyInv x) (hc : Compat (div_anyW x) 64) :
    a.eqAny x = decide (a.abs.val = x.abs.val) ∧ a.cmpAny x = compare a.abs.val x.abs.val := by
  rcases a with s | s <;> rcases x with ⟨w, b⟩ | b
  · exact Bvf.eqcmp_num s b hc.symm ha.1 hx.2
  · exact eqcmp_swap (Bvd.eqcmp_bvf_num b s compat64 hx ha.1)
  · exact Bvd.eqcmp_bvf_num s b hc ha hx.2
  · exact ⟨Bvd.eqBvd_eq_any s b, Bvd.cmpBvd_eq_any s b⟩

end Bva
