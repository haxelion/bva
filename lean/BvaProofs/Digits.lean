import BvaProofs.Base
/-!
# Positional digit strings and the accumulate loop `data[j] = (data[j] << sh) | digit`

`from_binary`, `from_hex` (`sh = 1, 4`, digits from characters) and `from_bytes` (`sh = 8`) of both
implementations run this loop on word arrays, `TryFrom<&Bvd> for uN` on a single word.  The word a digit goes to
is computed in two ways in the code; both are "(digits still to come) / (digits per word)" (`pred_sub_div`, `rev_idx`).
-/
namespace Bva
variable {w : Nat}

/-- value of a digit string, most significant digit first -/
def ofDigits (base : Nat) (ds : List Nat) : Nat := ds.foldl (fun acc d => acc * base + d) 0

theorem foldl_digits (base : Nat) (ds : List Nat) (acc : Nat) :
    ds.foldl (fun acc d => acc * base + d) acc = acc * base ^ ds.length + ofDigits base ds := by
  unfold ofDigits
  induction ds generalizing acc with
  | nil => exact (Nat.mul_one acc).symm
  | cons d ds ih =>
    rw [List.foldl_cons, List.foldl_cons, ih, ih (0 * base + d), List.length_cons, Nat.pow_succ', Nat.zero_mul,
      Nat.zero_add, Nat.add_mul, Nat.mul_assoc, Nat.add_assoc]

theorem ofDigits_cons (base d : Nat) (ds : List Nat) :
    ofDigits base (d :: ds) = d * base ^ ds.length + ofDigits base ds := by
  rw [ofDigits, List.foldl_cons, foldl_digits, Nat.zero_mul, Nat.zero_add]

theorem ofDigits_concat (base d : Nat) (ds : List Nat) :
    ofDigits base (ds ++ [d]) = ofDigits base ds * base + d := by
  rw [ofDigits, List.foldl_append]
  rfl

theorem ofDigits_lt {base : Nat} {ds : List Nat} (hd : ∀ d ∈ ds, d < base) :
    ofDigits base ds < base ^ ds.length := by
  induction ds with
  | nil => exact Nat.zero_lt_one
  | cons d ds ih =>
    obtain ⟨hd0, hds⟩ := List.forall_mem_cons.mp hd
    rw [ofDigits_cons, List.length_cons, Nat.pow_succ', Nat.add_comm, Nat.mul_comm d, Nat.mul_comm base]
    exact add_mul_lt_mul (ih hds) hd0

theorem ofNat_shiftRight_of_lt {x n k : Nat} (hx : x < 2 ^ n) (hk : n ≤ k) : BitVec.ofNat w (x >>> k) = 0#w := by
  rw [Nat.shiftRight_eq_div_pow, Nat.div_eq_of_lt (lt_two_pow_of_le hx hk)]

theorem shl_or_ofNat (a : Nat) {d sh : Nat} (hd : d < 2 ^ sh) :
    (BitVec.ofNat w a <<< sh) ||| BitVec.ofNat w d = BitVec.ofNat w (a * 2 ^ sh + d) := by
  apply BitVec.eq_of_getLsbD_eq
  intro q hq
  rw [BitVec.getLsbD_or, BitVec.getLsbD_shiftLeft, BitVec.getLsbD_ofNat, BitVec.getLsbD_ofNat, BitVec.getLsbD_ofNat,
    Nat.mul_comm a, Nat.testBit_two_pow_mul_add _ hd, decide_eq_true hq, Bool.true_and, Bool.true_and]
  by_cases hqs : q < sh
  · rw [if_pos hqs, decide_eq_true hqs, Bool.not_true, Bool.false_and, Bool.false_or, Bool.true_and]
  · rw [if_neg hqs, decide_eq_false hqs, testBit_of_lt hd (Nat.le_of_not_lt hqs), Bool.or_false, Bool.not_false,
      Bool.true_and, decide_eq_true (Nat.lt_of_le_of_lt (Nat.sub_le q sh) hq), Bool.true_and]

theorem foldl_shl_or (sh : Nat) (ds : List Nat) (hd : ∀ d ∈ ds, d < 2 ^ sh) (a : Nat) :
    ds.foldl (fun (x : BitVec w) d => (x <<< sh) ||| BitVec.ofNat w d) (BitVec.ofNat w a)
      = BitVec.ofNat w (ds.foldl (fun a d => a * 2 ^ sh + d) a) := by
  induction ds generalizing a with
  | nil => rfl
  | cons d ds ih =>
    obtain ⟨hd0, hds⟩ := List.forall_mem_cons.mp hd
    rw [List.foldl_cons, List.foldl_cons, shl_or_ofNat a hd0, ih hds]

theorem ofDigits_words (ws : Array (BitVec w)) (n : Nat) :
    ofDigits (2 ^ w) ((List.range' 0 n).reverse.map fun i => (wd ws i).toNat) = valUpTo ws n := by
  induction n with
  | zero => rfl
  | succ n ih =>
    -- word `n` is the new leading digit
    have hl : (List.range' 0 (n + 1)).reverse = n :: (List.range' 0 n).reverse := by
      rw [List.range'_concat, List.reverse_append, List.reverse_singleton, List.singleton_append, Nat.zero_add, Nat.one_mul]
    rw [hl, List.map_cons, ofDigits_cons, ih, List.length_map, List.length_reverse, List.length_range', ← Nat.pow_mul,
      valUpTo, Nat.add_comm, Nat.mul_comm]

/-- bits `sh·n …` of a number whose low `n + 1` base-`2^sh` digits are `d`, then those of `X` -/
theorem testBit_digit {sh n d X V q : Nat} (hV : V % 2 ^ (sh * (n + 1)) = d * 2 ^ (sh * n) + X)
    (hX : X < 2 ^ (sh * n)) (hq : q < sh) : V.testBit (sh * n + q) = d.testBit q := by
  have := Nat.testBit_mod_two_pow V (sh * (n + 1)) (sh * n + q)
  rw [hV, Nat.mul_comm d, Nat.testBit_two_pow_mul_add _ hX, if_neg (Nat.not_lt.mpr (Nat.le_add_right ..)),
    Nat.add_sub_cancel_left, Nat.mul_succ, decide_eq_true (Nat.add_lt_add_left hq _), Bool.true_and] at this
  exact this.symm

theorem bitAt_of_wd_ofNat (hw : 0 < w) {a : Array (BitVec w)} {V : Nat}
    (h : ∀ m, wd a m = BitVec.ofNat w (V >>> (m * w))) (p : Nat) : bitAt a p = V.testBit p :=
  bitAt_of_wd a V.testBit hw (fun k j hj => by
    rw [h, BitVec.getLsbD_ofNat, Nat.testBit_shiftRight, decide_eq_true hj, Bool.true_and]) p

/-- shifting the next digit `d` into a word that holds `F` shifted right by `k + sh` -/
theorem shr_shl_or (F : BitVec w) {d k sh : Nat} (hd : d < 2 ^ sh)
    (hF : ∀ q, q < sh → F.getLsbD (k + q) = d.testBit q) :
    ((F >>> (k + sh)) <<< sh) ||| BitVec.ofNat w d = F >>> k := by
  apply BitVec.eq_of_getLsbD_eq
  intro q hq
  rw [BitVec.getLsbD_or, BitVec.getLsbD_shiftLeft, BitVec.getLsbD_ushiftRight, BitVec.getLsbD_ushiftRight,
    BitVec.getLsbD_ofNat, decide_eq_true hq, Bool.true_and, Bool.true_and]
  by_cases hqs : q < sh
  · rw [hF q hqs, decide_eq_true hqs, Bool.not_true, Bool.false_and, Bool.false_or]
  · rw [testBit_of_lt hd (Nat.le_of_not_lt hqs), decide_eq_false hqs, Bool.not_false, Bool.true_and, Bool.or_false,
      Nat.add_assoc, Nat.add_sub_cancel' (Nat.le_of_not_lt hqs)]

/-- `data[r / dpw] = (data[r / dpw] << sh) | d` for each digit `d`, most significant first, where `r` is the
number of digits still to come -/
def accum (sh dpw : Nat) : List Nat → Array (BitVec w) → Array (BitVec w)
  | [], a => a
  | d :: ds, a => accum sh dpw ds
      (a.setIfInBounds (ds.length / dpw) ((wd a (ds.length / dpw) <<< sh) ||| BitVec.ofNat w d))

theorem size_accum (sh dpw : Nat) (ds : List Nat) (a : Array (BitVec w)) : (accum sh dpw ds a).size = a.size := by
  induction ds generalizing a with
  | nil => rfl
  | cons d ds ih => rw [accum, ih, Array.size_setIfInBounds]

/-- `min dpw (n - m * dpw)`: how many of the `n` digits still to come go to word `m` -/
theorem pending_succ {dpw : Nat} (hdpw : 0 < dpw) (n m : Nat) :
    (n / dpw = m → min dpw (n + 1 - m * dpw) = n % dpw + 1 ∧ min dpw (n - m * dpw) = n % dpw) ∧
    (n / dpw ≠ m → min dpw (n + 1 - m * dpw) = min dpw (n - m * dpw)) := by
  have h2 := Nat.mod_lt n hdpw
  constructor
  · intro h
    have h1 : n = n % dpw + m * dpw := by rw [← h, Nat.add_comm, Nat.mul_comm]; exact (Nat.div_add_mod n dpw).symm
    have e2 : n - m * dpw = n % dpw := Nat.sub_eq_of_eq_add h1
    rw [Nat.succ_sub (Nat.le.intro (Nat.add_comm _ _ ▸ h1.symm)), e2]
    exact ⟨Nat.min_eq_right h2, Nat.min_eq_right (Nat.le_of_lt h2)⟩
  · intro h
    rcases Nat.lt_or_gt_of_ne h with h | h
    · have := (Nat.div_lt_iff_lt_mul hdpw).mp h
      rw [Nat.sub_eq_zero_of_le this, Nat.sub_eq_zero_of_le (Nat.le_of_lt this)]
    · have := (Nat.le_div_iff_mul_le hdpw).mp h
      rw [Nat.succ_mul] at this
      rw [Nat.min_eq_left (Nat.le_sub_of_add_le' (Nat.le_succ_of_le this)), Nat.min_eq_left (Nat.le_sub_of_add_le' this)]

/-- invariant of the loop: with the digits `ds` still to come, word `m` is its final content shifted right by the
digits it is still to receive -/
theorem accum_wd {sh dpw : Nat} (hdpw : 0 < dpw) (hw : w = sh * dpw) (V : Nat) :
    ∀ (ds : List Nat) (a : Array (BitVec w)), (∀ d ∈ ds, d < 2 ^ sh) → ds.length ≤ a.size * dpw →
      V % 2 ^ (sh * ds.length) = ofDigits (2 ^ sh) ds →
      (∀ m, wd a m = BitVec.ofNat w (V >>> (m * w)) >>> (sh * min dpw (ds.length - m * dpw))) →
      ∀ m, wd (accum sh dpw ds a) m = BitVec.ofNat w (V >>> (m * w)) := by
  intro ds
  induction ds with
  | nil =>
    intro a _ _ _ ha m
    rw [accum, ha, List.length_nil, Nat.zero_sub, Nat.min_zero, Nat.mul_zero, BitVec.ushiftRight_zero]
  | cons d ds ih =>
    intro a hd hN hV ha
    obtain ⟨hd0, hds⟩ := List.forall_mem_cons.mp hd
    rw [List.length_cons] at hN hV ha
    have hX := ofDigits_lt hds
    rw [ofDigits_cons, ← Nat.pow_mul] at hV
    rw [← Nat.pow_mul] at hX
    refine ih _ hds ?_ ?_ ?_
    · -- room for the remaining digits
      rw [Array.size_setIfInBounds]; exact Nat.le_of_succ_le hN
    · -- they spell `V` below digit `d`
      rw [← Nat.mod_mod_of_dvd V (Nat.pow_dvd_pow 2 (Nat.mul_le_mul_left sh (Nat.le_succ _))), hV,
        Nat.mul_add_mod_self_right, Nat.mod_eq_of_lt hX]
    · -- the invariant after the write
      intro m
      obtain ⟨p1, p2⟩ := pending_succ hdpw ds.length m
      rw [wd_setIfInBounds]
      by_cases hm : ds.length / dpw = m
      · -- the word written: one digit fewer pending (`p1`), and the digit shifted in is the one `V` has there
        obtain ⟨e1, e2⟩ := p1 hm
        rw [if_pos ⟨hm, (Nat.div_lt_iff_lt_mul hdpw).mpr hN⟩, hm, ha, e1, e2, Nat.mul_succ]
        refine shr_shl_or _ hd0 (fun q hq => ?_)
        -- bit `sh * (n % dpw) + q` of word `n / dpw` is bit `sh * n + q` of `V`
        have e3 : m * w + sh * (ds.length % dpw) = sh * ds.length := by
          rw [hw, ← hm, Nat.mul_left_comm, ← Nat.mul_add, Nat.mul_comm _ dpw, Nat.div_add_mod]
        have e4 : sh * (ds.length % dpw) + q < w := by
          have := Nat.mul_le_mul_left sh (Nat.mod_lt ds.length hdpw)
          rw [← hw] at this
          exact Nat.lt_of_lt_of_le (Nat.add_lt_add_left hq _) this
        rw [BitVec.getLsbD_ofNat, Nat.testBit_shiftRight, ← Nat.add_assoc, e3, testBit_digit hV hX hq,
          decide_eq_true e4, Bool.true_and]
      · -- another word: untouched, as many digits pending as before (`p2`)
        rw [if_neg (fun h => hm h.1), ha, p2 hm]

theorem bitAt_accum {sh dpw : Nat} (hsh : 0 < sh) (hdpw : 0 < dpw) (hw : w = sh * dpw) (ds : List Nat)
    (hd : ∀ d ∈ ds, d < 2 ^ sh) (N : Nat) (hN : ds.length ≤ N * dpw) (p : Nat) :
    bitAt (accum sh dpw ds (Array.replicate N 0#w)) p = (ofDigits (2 ^ sh) ds).testBit p := by
  have hV := ofDigits_lt hd
  rw [← Nat.pow_mul] at hV
  refine bitAt_of_wd_ofNat (by rw [hw]; exact Nat.mul_pos hsh hdpw)
    (accum_wd hdpw hw _ ds _ hd (by rw [Array.size_replicate]; exact hN) (Nat.mod_eq_of_lt hV) (fun m => ?_)) p
  -- nothing of the value is visible yet: word `m` shifted by its pending digits is zero
  rw [wd_replicate, ite_self]
  apply BitVec.eq_of_getLsbD_eq
  intro q _
  rw [BitVec.getLsbD_zero, BitVec.getLsbD_ushiftRight, BitVec.getLsbD_ofNat, Nat.testBit_shiftRight]
  by_cases hp : dpw ≤ ds.length - m * dpw
  · rw [Nat.min_eq_left hp, ← hw, decide_eq_false (Nat.not_lt.mpr (Nat.le_add_right w q)), Bool.false_and]
  · have := Nat.mul_le_mul_left sh (Nat.sub_le_iff_le_add'.mp (Nat.le_refl (ds.length - m * dpw)))
    rw [Nat.mul_add, Nat.mul_left_comm, ← hw] at this
    rw [Nat.min_eq_right (Nat.le_of_not_le hp), ← Nat.add_assoc,
      testBit_of_lt hV (Nat.le_trans this (Nat.le_add_right _ q)), Bool.and_false]

theorem accum_refines {sh dpw : Nat} (hsh : 0 < sh) (hdpw : 0 < dpw) (hw : w = sh * dpw) (ds : List Nat)
    (hd : ∀ d ∈ ds, d < 2 ^ sh) (N : Nat) (hN : ds.length ≤ N * dpw) (len : Nat) (hl : len = sh * ds.length) :
    (⟨accum sh dpw ds (Array.replicate N 0#w), len⟩ : Raw w).Inv ∧
    (⟨accum sh dpw ds (Array.replicate N 0#w), len⟩ : Raw w).abs = ⟨len, ofDigits (2 ^ sh) ds⟩ := by
  have hV := ofDigits_lt hd
  rw [← Nat.pow_mul, ← hl] at hV
  have hcap : len ≤ (accum sh dpw ds (Array.replicate N 0#w)).size * w := by
    rw [size_accum, Array.size_replicate, hl, hw, Nat.mul_comm sh dpw, ← Nat.mul_assoc, Nat.mul_comm sh]
    exact Nat.mul_le_mul_right sh hN
  exact Raw.refines_of_bits _ ⟨len, _⟩ (by rw [hw]; exact Nat.mul_pos hsh hdpw) hV rfl hcap
    (bitAt_accum hsh hdpw hw ds hd N hN)

/-- rounding up twice is rounding up once (`Bvd` reaches its word count through the byte count) -/
theorem cap_cap (a b n : Nat) (ha : 0 < a) (hb : 0 < b) :
    capFromBitLen a (capFromBitLen b n) = capFromBitLen (a * b) n :=
  eq_of_forall_ge_iff fun c => by
    rw [cap_le_iff _ _ ha, cap_le_iff _ _ hb, cap_le_iff _ _ (Nat.mul_pos ha hb), Nat.mul_assoc]

theorem cap_mul_right (d k n : Nat) (hd : 0 < d) (hk : 0 < k) :
    capFromBitLen (d * k) (n * k) = capFromBitLen d n :=
  eq_of_forall_ge_iff fun c => by
    rw [cap_le_iff _ _ (Nat.mul_pos hd hk), cap_le_iff _ _ hd, ← Nat.mul_assoc, Nat.mul_le_mul_right_iff hk]

theorem add_pad (d len : Nat) (hd : 0 < d) : len + (d - len % d) % d = capFromBitLen d len * d := by
  rw [capFromBitLen_eq hd]
  by_cases h : len % d = 0
  · -- a multiple of `d` is not padded
    rw [if_pos h, h, Nat.sub_zero, Nat.mod_self, Nat.add_zero, Nat.div_mul_cancel (Nat.dvd_of_mod_eq_zero h)]
  · -- otherwise `len = len / d * d + len % d` is padded by `d - len % d`
    rw [if_neg h, Nat.mod_eq_of_lt (Nat.sub_lt hd (Nat.pos_of_ne_zero h)), Nat.succ_mul,
      ← Nat.add_sub_assoc (Nat.le_of_lt (Nat.mod_lt len hd)), Nat.add_comm len, Nat.add_sub_assoc (Nat.mod_le len d),
      Nat.add_comm d, ← Nat.div_mul_self_eq_mod_sub_self]

/-- positions counted from the two ends of `n * d` slots lie in mirrored groups of `d` -/
theorem div_compl {d n p r : Nat} (h : p + r + 1 = n * d) : n - 1 - p / d = r / d := by
  have hr : r = d * n - (p + 1) := by
    rw [Nat.mul_comm, ← h, Nat.add_right_comm, Nat.add_sub_cancel_left]
  have hp : p < d * n := by
    rw [Nat.mul_comm, ← h]
    exact Nat.lt_succ_of_le (Nat.le_add_right p r)
  rw [hr, Nat.mul_sub_div p d n hp, Nat.sub_sub, Nat.add_comm]

/-- `Bvd` puts digit `t` of `len` into word `n - 1 - (t + offset) / d`, with `n = ⌈len / d⌉` words and `offset` the
padding that makes `len + offset` a multiple of `d`: that is word `r / d` when `r` digits come after it -/
theorem rev_idx {d : Nat} (hd : 0 < d) {len t r : Nat} (h : r + t + 1 = len) :
    (len + d - 1) / d - 1 - (t + (d - len % d) % d) / d = r / d := by
  refine div_compl ?_
  -- `t + offset + r + 1` is `len + offset`
  rw [← h, Nat.add_right_comm t, Nat.add_right_comm (t + r), Nat.add_comm t r]
  exact add_pad d _ hd

/-- the same for the plain layout `(len - 1 - t) / d` -/
theorem pred_sub_div {len t r : Nat} (h : r + t + 1 = len) (d : Nat) : (len - 1 - t) / d = r / d := by
  rw [← h, Nat.add_sub_cancel, Nat.add_sub_cancel]

end Bva
