import BvaModel.Spec
import BvaProofs.Attr
/-!
# L0 by bits: what each operation of `BvaModel/Spec.lean` does to the length, to bit `i`, to `WF` and, where it is
simple, to the value (no storage here).  After `BV.ext_bits`, `simp only [bv_bit, …]` leaves a Boolean identity or two
gated bits (`gate_congr`); what is built as `lo + hi * 2 ^ len` is an `append`; rotations compose through `IsRot`.
-/
namespace Bva

/-- congruence for a gated bit: the bits have to agree only where the gate holds -/
theorem gate_congr {p q : Prop} [Decidable p] [Decidable q] {x y : Bool} (hpq : p ↔ q) (h : q → x = y) :
    (decide p && x) = (decide q && y) := by
  by_cases hq : q
  · rw [decide_eq_true hq, decide_eq_true (hpq.mpr hq), h hq]
  · rw [decide_eq_false hq, decide_eq_false (mt hpq.mp hq)]; rfl

theorem eq_of_forall_ge_iff {a b : Nat} (h : ∀ c, a ≤ c ↔ b ≤ c) : a = b :=
  Nat.le_antisymm ((h b).mpr (Nat.le_refl b)) ((h a).mp (Nat.le_refl a))

theorem lt_two_pow_of_le {x m n : Nat} (h : x < 2 ^ m) (hmn : m ≤ n) : x < 2 ^ n :=
  Nat.lt_of_lt_of_le h (Nat.pow_le_pow_right (by decide) hmn)

/-- a digit `d < B` under `N < P`, in base `B` -/
theorem add_mul_lt_mul {d N B P : Nat} (hd : d < B) (hN : N < P) : d + B * N < B * P :=
  Nat.lt_of_lt_of_le (Nat.add_lt_add_right hd _) (by rw [Nat.add_comm, ← Nat.mul_succ]; exact Nat.mul_le_mul_left B hN)

theorem sub_eq_zero_iff_eq {i m : Nat} (h : m ≤ i) : i - m = 0 ↔ i = m :=
  Nat.sub_eq_zero_iff_le.trans ⟨fun h' => Nat.le_antisymm h' h, Nat.le_of_eq⟩

theorem testBit_of_lt {x n i : Nat} (hx : x < 2 ^ n) (hi : n ≤ i) : x.testBit i = false :=
  Nat.testBit_lt_two_pow (lt_two_pow_of_le hx hi)

/-- `v` split at bit `i`: the bits below, the bits above, bit `i` -/
theorem split_at_bit (v i : Nat) :
    v = v % 2 ^ i + 2 ^ (i + 1) * (v / 2 ^ (i + 1)) + (v.testBit i).toNat * 2 ^ i := by
  rw [Nat.toNat_testBit, Nat.add_right_comm, Nat.mul_comm _ (2 ^ i), ← Nat.mod_pow_succ, Nat.mod_add_div]

theorem testBit_two_mul_add_toNat (x : Nat) (b : Bool) (i : Nat) :
    (2 * x + b.toNat).testBit i = if i = 0 then b else x.testBit (i - 1) := by
  cases i with
  | zero => rw [if_pos rfl, Nat.testBit_zero, Nat.mul_add_mod]; cases b <;> rfl
  | succ i =>
    rw [if_neg (Nat.succ_ne_zero i), Nat.testBit_succ, Nat.mul_add_div (by decide), Nat.div_eq_of_lt (Bool.toNat_lt b)]
    rfl

/-- bit `j` of a number given as the bits `r` below `i`, the bits `h` above `i`, and bit `i` -/
theorem testBit_split (r h i j : Nat) (b : Bool) (hr : r < 2 ^ i) :
    (r + 2 ^ (i + 1) * h + b.toNat * 2 ^ i).testBit j =
      if j < i then r.testBit j else if j - i = 0 then b else h.testBit (j - i - 1) := by
  -- as `2 ^ i * (2 * h + b.toNat) + r`: first `r` is split off, then the one bit
  rw [Nat.pow_succ, Nat.mul_assoc, Nat.add_assoc, Nat.mul_comm b.toNat, ← Nat.mul_add, Nat.add_comm r,
    Nat.testBit_two_pow_mul_add _ hr, testBit_two_mul_add_toNat]

namespace BV

theorem ext_bits {a b : BV} (hl : a.len = b.len) (hb : ∀ i, a.bit i = b.bit i) : a = b := by
  cases a; cases b
  subst hl
  congr 1
  exact Nat.eq_of_testBit_eq hb

theorem bit_of_le_len (a : BV) (hwf : a.WF) (i : Nat) (hi : a.len ≤ i) : a.bit i = false :=
  testBit_of_lt hwf hi

theorem wf_of_bits (a : BV) (h : ∀ i, a.len ≤ i → a.bit i = false) : a.WF :=
  Nat.lt_pow_two_of_testBit _ h

theorem bit_eq_and (a : BV) (ha : a.WF) (i : Nat) : a.bit i = (decide (i < a.len) && a.bit i) := by
  by_cases h : i < a.len
  · rw [decide_eq_true h, Bool.true_and]
  · rw [decide_eq_false h, Bool.false_and, bit_of_le_len a ha i (Nat.le_of_not_lt h)]

theorem bit_eq_of_wf (a : BV) (ha : a.WF) {i : Nat} {x : Bool} (h : i < a.len → a.bit i = x) :
    a.bit i = (decide (i < a.len) && x) := by
  rw [bit_eq_and a ha]; exact gate_congr Iff.rfl h

theorem ext_of_wf {a b : BV} (ha : a.WF) (hb : b.WF) (hl : a.len = b.len)
    (h : ∀ i, i < a.len → a.bit i = b.bit i) : a = b :=
  ext_bits hl fun i => by
    rw [bit_eq_and a ha, bit_eq_and b hb, ← hl]; exact gate_congr Iff.rfl (h i)

theorem wf_of_gate (a : BV) {f : Nat → Bool} (h : ∀ i, a.bit i = (decide (i < a.len) && f i)) : a.WF :=
  wf_of_bits a fun i hi => by rw [h, decide_eq_false (Nat.not_lt.mpr hi), Bool.false_and]

theorem bits_length (a : BV) : a.bits.length = a.len := by
  rw [bits, List.length_map, List.length_range]

theorem bits_getElem (a : BV) (i : Nat) (h : i < a.bits.length) : a.bits[i] = a.bit i := by
  simp only [bits, List.getElem_map, List.getElem_range]

@[bv_bit] theorem zeros_len (n : Nat) : (zeros n).len = n := rfl
@[bv_bit] theorem ones_len (n : Nat) : (ones n).len = n := rfl
@[bv_bit] theorem repeat_len (b : Bool) (n : Nat) : (BV.repeat b n).len = n := by cases b <;> rfl
@[bv_bit] theorem add_len (a x : BV) : (a.add x).len = a.len := rfl
@[bv_bit] theorem sub_len (a x : BV) : (a.sub x).len = a.len := rfl
@[bv_bit] theorem mul_len (a x : BV) : (a.mul x).len = a.len := rfl
@[bv_bit] theorem and_len (a x : BV) : (a.and x).len = a.len := rfl
@[bv_bit] theorem or_len (a x : BV) : (a.or x).len = a.len := rfl
@[bv_bit] theorem xor_len (a x : BV) : (a.xor x).len = a.len := rfl
@[bv_bit] theorem not_len (a : BV) : a.not.len = a.len := rfl
@[bv_bit] theorem shl_len (a : BV) (k : Nat) : (a.shl k).len = a.len :=
  (apply_ite BV.len ..).trans (ite_self _)
@[bv_bit] theorem shr_len (a : BV) (k : Nat) : (a.shr k).len = a.len :=
  (apply_ite BV.len ..).trans (ite_self _)
@[bv_bit] theorem shlIn_len (a : BV) (b : Bool) : (a.shlIn b).1.len = a.len :=
  (apply_ite (fun r : BV × Bool => r.1.len) ..).trans (ite_self _)
@[bv_bit] theorem shrIn_len (a : BV) (b : Bool) : (a.shrIn b).1.len = a.len :=
  (apply_ite (fun r : BV × Bool => r.1.len) ..).trans (ite_self _)
@[bv_bit] theorem rotl_len (a : BV) (k : Nat) : (a.rotl k).len = a.len :=
  (apply_ite BV.len ..).trans (ite_self _)
@[bv_bit] theorem rotr_len (a : BV) (k : Nat) : (a.rotr k).len = a.len :=
  (apply_ite BV.len ..).trans (ite_self _)
@[bv_bit] theorem push_len (a : BV) (b : Bool) : (a.push b).len = a.len + 1 := rfl
@[bv_bit] theorem set_len (a : BV) (i : Nat) (b : Bool) : (a.set i b).len = a.len := rfl
@[bv_bit] theorem resize_len (a : BV) (n : Nat) (b : Bool) : (a.resize n b).len = n :=
  (apply_ite BV.len ..).trans (ite_self _)
@[bv_bit] theorem append_len (a x : BV) : (a.append x).len = a.len + x.len := rfl
@[bv_bit] theorem copyRange_len (a : BV) (s e : Nat) : (a.copyRange s e).len = e - s := rfl

@[bv_bit] theorem mk_mod_bit (m n v i : Nat) : (BV.mk m (v % 2 ^ n)).bit i = (decide (i < n) && v.testBit i) :=
  Nat.testBit_mod_two_pow ..

@[bv_bit] theorem mk_toNat_bit (n : Nat) (b : Bool) (i : Nat) : (BV.mk n b.toNat).bit i = (decide (i = 0) && b) :=
  Nat.testBit_bool_toNat b i

@[bv_bit] theorem mk_toNat_mul_bit (n : Nat) (b : Bool) (m i : Nat) :
    (BV.mk n (b.toNat * 2 ^ m)).bit i = (decide (i = m) && b) := by
  show (b.toNat * 2 ^ m).testBit i = _
  rw [Nat.testBit_mul_two_pow, Nat.testBit_bool_toNat, ← Bool.and_assoc, ← Bool.decide_and]
  exact gate_congr ⟨fun h => (sub_eq_zero_iff_eq h.1).mp h.2, fun h => h ▸ ⟨Nat.le_refl _, Nat.sub_self _⟩⟩
    fun _ => rfl

theorem single_wf (b : Bool) : (BV.mk 1 b.toNat).WF := by
  cases b <;> decide

@[bv_bit] theorem zeros_bit (n i : Nat) : (zeros n).bit i = false := Nat.zero_testBit i

theorem zeros_wf (n : Nat) : (zeros n).WF := Nat.two_pow_pos n

@[bv_bit] theorem ones_bit (n i : Nat) : (ones n).bit i = decide (i < n) := Nat.testBit_two_pow_sub_one ..

theorem ones_wf (n : Nat) : (ones n).WF := Nat.sub_lt (Nat.two_pow_pos n) Nat.one_pos

@[bv_bit] theorem repeat_bit (b : Bool) (n i : Nat) : (BV.repeat b n).bit i = (decide (i < n) && b) := by
  cases b
  · rw [Bool.and_false]; exact zeros_bit n i
  · rw [Bool.and_true]; exact ones_bit n i

@[bv_bit] theorem and_bit (a x : BV) (i : Nat) : (a.and x).bit i = (a.bit i && x.bit i) := Nat.testBit_and ..

@[bv_bit] theorem or_bit (a x : BV) (i : Nat) : (a.or x).bit i = (a.bit i || (decide (i < a.len) && x.bit i)) := by
  unfold BV.or bit; simp only [Nat.testBit_or, Nat.testBit_mod_two_pow]

@[bv_bit] theorem xor_bit (a x : BV) (i : Nat) : (a.xor x).bit i = (a.bit i ^^ (decide (i < a.len) && x.bit i)) := by
  unfold BV.xor bit; simp only [Nat.testBit_xor, Nat.testBit_mod_two_pow]

@[bv_bit] theorem not_bit (a : BV) (ha : a.WF) (i : Nat) : a.not.bit i = (decide (i < a.len) && !a.bit i) := by
  show (2 ^ a.len - 1 - a.val).testBit i = _
  rw [Nat.sub_sub, Nat.add_comm 1, Nat.testBit_two_pow_sub_succ ha]
  rfl

theorem and_wf (a x : BV) (ha : a.WF) : (a.and x).WF := Nat.lt_of_le_of_lt Nat.and_le_left ha

theorem or_wf (a x : BV) (ha : a.WF) : (a.or x).WF :=
  Nat.or_lt_two_pow ha (Nat.mod_lt _ (Nat.two_pow_pos _))

theorem xor_wf (a x : BV) (ha : a.WF) : (a.xor x).WF :=
  Nat.xor_lt_two_pow ha (Nat.mod_lt _ (Nat.two_pow_pos _))

theorem not_wf (a : BV) : a.not.WF := Nat.lt_of_le_of_lt (Nat.sub_le _ _) (ones_wf a.len)

theorem sub_of_le (a x : BV) (ha : a.WF) (hx : x.val ≤ a.val) : a.sub x = ⟨a.len, a.val - x.val⟩ := by
  unfold sub
  rw [Nat.mod_eq_of_lt (Nat.lt_of_le_of_lt hx ha), Nat.sub_add_comm hx, Nat.add_mod_right,
    Nat.mod_eq_of_lt (Nat.lt_of_le_of_lt (Nat.sub_le _ _) ha)]

theorem div_mul_add_rem (a x : BV) (ha : a.WF) : ((a.div x).mul x).add (a.rem x) = a :=
  congrArg (BV.mk a.len) ((Nat.mod_add_mod ..).trans ((congrArg (· % _) (Nat.div_add_mod' ..)).trans
    (Nat.mod_eq_of_lt ha)))

@[bv_bit] theorem shl_bit (a : BV) (k i : Nat) :
    (a.shl k).bit i = (decide (k ≤ i ∧ i < a.len) && a.bit (i - k)) := by
  unfold BV.shl
  split
  · rename_i h
    rw [decide_eq_false fun hi => Nat.not_le_of_lt hi.2 (Nat.le_trans h hi.1)]
    exact Nat.zero_testBit i
  · rw [mk_mod_bit, Nat.testBit_shiftLeft, ← Bool.and_assoc, ← Bool.decide_and]
    exact gate_congr And.comm fun _ => rfl

@[bv_bit] theorem shr_bit (a : BV) (ha : a.WF) (k i : Nat) :
    (a.shr k).bit i = (decide (i + k < a.len) && a.bit (i + k)) := by
  rw [← bit_eq_and a ha]
  unfold BV.shr
  split
  · rename_i h
    exact (Nat.zero_testBit i).trans (bit_of_le_len a ha _ (Nat.le_trans h (Nat.le_add_left k i))).symm
  · rw [Nat.add_comm]; exact Nat.testBit_shiftRight ..

theorem shl_wf (a : BV) (k : Nat) : (a.shl k).WF := by
  unfold shl; split
  · exact Nat.two_pow_pos _
  · exact Nat.mod_lt _ (Nat.two_pow_pos _)

theorem shr_wf (a : BV) (k : Nat) (ha : a.WF) : (a.shr k).WF :=
  wf_of_bits _ fun i hi => by
    rw [shr_bit a ha, bit_of_le_len a ha _ (Nat.le_trans (shr_len a k ▸ hi) (Nat.le_add_right i k)), Bool.and_false]

theorem shl_of_len_le (a : BV) (k : Nat) (h : a.len ≤ k) : a.shl k = ⟨a.len, 0⟩ := if_pos h

theorem shr_of_len_le (a : BV) (k : Nat) (h : a.len ≤ k) : a.shr k = ⟨a.len, 0⟩ := if_pos h

theorem shl_eq (a : BV) (k : Nat) : a.shl k = ⟨a.len, (a.val * 2 ^ k) % 2 ^ a.len⟩ := by
  unfold shl; split
  · rename_i h
    rw [Nat.mod_eq_zero_of_dvd (Nat.dvd_trans (Nat.pow_dvd_pow 2 h) (Nat.dvd_mul_left _ _))]
  · rw [Nat.shiftLeft_eq]

theorem shr_eq (a : BV) (k : Nat) (ha : a.WF) : a.shr k = ⟨a.len, a.val / 2 ^ k⟩ := by
  unfold shr; split
  · rename_i h
    rw [Nat.div_eq_of_lt (lt_two_pow_of_le ha h)]
  · rw [Nat.shiftRight_eq_div_pow]

theorem shlIn_snd (a : BV) (b : Bool) : (a.shlIn b).2 = if a.len = 0 then b else a.bit (a.len - 1) :=
  apply_ite Prod.snd ..

theorem shrIn_snd (a : BV) (b : Bool) : (a.shrIn b).2 = if a.len = 0 then b else a.bit 0 :=
  apply_ite Prod.snd ..

@[bv_bit] theorem shlIn_bit (a : BV) (ha : a.WF) (b : Bool) (i : Nat) :
    (a.shlIn b).1.bit i = (decide (i < a.len) && (if i = 0 then b else a.bit (i - 1))) := by
  unfold shlIn
  split
  · rename_i h0
    exact bit_eq_of_wf a ha fun h => absurd h (h0 ▸ Nat.not_lt_zero i)
  · exact (mk_mod_bit ..).trans (congrArg _ (testBit_two_mul_add_toNat ..))

@[bv_bit] theorem shrIn_bit (a : BV) (ha : a.WF) (b : Bool) (i : Nat) :
    (a.shrIn b).1.bit i = (decide (i < a.len) && (if i + 1 = a.len then b else a.bit (i + 1))) := by
  unfold shrIn
  split
  · rename_i h0
    exact bit_eq_of_wf a ha fun h => absurd h (h0 ▸ Nat.not_lt_zero i)
  · rename_i h0
    obtain ⟨n, hn⟩ := Nat.exists_eq_succ_of_ne_zero h0
    have hlt : a.val / 2 < 2 ^ n := Nat.div_lt_of_lt_mul (by rw [← Nat.pow_succ', ← hn]; exact ha)
    show (a.val / 2 + b.toNat * 2 ^ (a.len - 1)).testBit i = _
    rw [hn, Nat.succ_sub_one, Nat.add_comm, Nat.mul_comm, Nat.testBit_two_pow_mul_add _ hlt, Nat.testBit_bool_toNat,
      Nat.testBit_div_two]
    rcases Nat.lt_trichotomy i n with h | h | h
    · rw [if_pos h, decide_eq_true (Nat.lt_succ_of_lt h), if_neg (Nat.ne_of_lt (Nat.succ_lt_succ h))]; rfl
    · rw [h, if_neg (Nat.lt_irrefl n), Nat.sub_self, if_pos rfl, decide_eq_true (Nat.lt_succ_self n)]; rfl
    · rw [if_neg (Nat.lt_asymm h), decide_eq_false (Nat.sub_ne_zero_of_lt h), decide_eq_false (Nat.not_lt.mpr h)]; rfl

theorem shlIn_wf (a : BV) (b : Bool) (ha : a.WF) : (a.shlIn b).1.WF :=
  wf_of_gate _ fun i => by rw [shlIn_bit a ha, shlIn_len]

theorem shrIn_wf (a : BV) (b : Bool) (ha : a.WF) : (a.shrIn b).1.WF :=
  wf_of_gate _ fun i => by rw [shrIn_bit a ha, shrIn_len]

@[bv_bit] theorem append_bit (lo hi : BV) (h : lo.WF) (i : Nat) :
    (append lo hi).bit i = if i < lo.len then lo.bit i else hi.bit (i - lo.len) := by
  unfold append bit
  simp only
  rw [Nat.add_comm, Nat.mul_comm]
  exact Nat.testBit_two_pow_mul_add _ h _

theorem append_wf (a x : BV) (ha : a.WF) (hx : x.WF) : (a.append x).WF :=
  wf_of_bits _ fun i (hi : a.len + x.len ≤ i) => by
    rw [append_bit _ _ ha, if_neg (Nat.not_lt.mpr (Nat.le_trans (Nat.le_add_right ..) hi))]
    exact bit_of_le_len x hx _ (Nat.le_sub_of_add_le' hi)

theorem lv_prepend_eq_append (a x : BV) : a.prepend x = x.append a := by
  unfold prepend append
  rw [Nat.add_comm a.len]

theorem push_eq_append (a : BV) (b : Bool) : a.push b = a.append ⟨1, b.toNat⟩ := rfl

@[bv_bit] theorem push_bit (a : BV) (b : Bool) (ha : a.WF) (i : Nat) :
    (a.push b).bit i = if i < a.len then a.bit i else (decide (i = a.len) && b) := by
  rw [push_eq_append, append_bit _ _ ha, mk_toNat_bit]
  by_cases h : i < a.len
  · rw [if_pos h, if_pos h]
  · rw [if_neg h, if_neg h]
    exact gate_congr (sub_eq_zero_iff_eq (Nat.le_of_not_lt h)) fun _ => rfl

theorem push_wf (a : BV) (b : Bool) (ha : a.WF) : (a.push b).WF :=
  push_eq_append a b ▸ append_wf a _ ha (single_wf b)

/-- `set` replaces bit `i` in the split of the value at `i` -/
@[bv_bit] theorem set_bit (a : BV) (i j : Nat) (b : Bool) : (a.set i b).bit j = if j = i then b else a.bit j := by
  have e : a.val = _ + _ + (a.bit i).toNat * 2 ^ i := split_at_bit a.val i
  have hr : a.val % 2 ^ i < 2 ^ i := Nat.mod_lt _ (Nat.two_pow_pos i)
  show (a.val - (a.bit i).toNat * 2 ^ i + b.toNat * 2 ^ i).testBit j = if j = i then b else a.val.testBit j
  generalize a.bit i = c at e ⊢
  generalize a.val % 2 ^ i = r at e hr
  generalize a.val / 2 ^ (i + 1) = h at e
  rw [e, Nat.add_sub_cancel, testBit_split r h i j b hr, testBit_split r h i j c hr]
  by_cases hj : j = i
  · rw [hj, if_neg (Nat.lt_irrefl i), if_pos (Nat.sub_self i), if_pos rfl]
  · by_cases hlt : j < i
    · rw [if_pos hlt, if_neg hj, if_pos hlt]
    · have hne : j - i ≠ 0 := Nat.sub_ne_zero_of_lt (Nat.lt_of_le_of_ne (Nat.le_of_not_lt hlt) (Ne.symm hj))
      rw [if_neg hj, if_neg hlt, if_neg hlt, if_neg hne, if_neg hne]

theorem set_wf (a : BV) (i : Nat) (b : Bool) (ha : a.WF) (hi : i < a.len) : (a.set i b).WF :=
  wf_of_bits _ fun j (hj : a.len ≤ j) => by
    rw [set_bit, if_neg (Nat.ne_of_gt (Nat.lt_of_lt_of_le hi hj))]
    exact bit_of_le_len a ha j hj

theorem set_true_of_clear (a : BV) (i : Nat) (h : a.bit i = false) : a.set i true = ⟨a.len, a.val + 2 ^ i⟩ := by
  unfold set
  rw [h, Bool.toNat_false, Nat.zero_mul, Nat.sub_zero, Bool.toNat_true, Nat.one_mul]

theorem resize_of_le (a : BV) (m : Nat) (b : Bool) (h : m ≤ a.len) : a.resize m b = ⟨m, a.val % 2 ^ m⟩ := if_pos h

theorem resize_eq_append (a : BV) (m : Nat) (b : Bool) (ha : a.WF) (hm : a.len ≤ m) :
    a.resize m b = a.append (BV.repeat b (m - a.len)) := by
  unfold resize append
  rw [repeat_len, Nat.add_sub_cancel' hm]
  split
  · rename_i h
    rw [Nat.mod_eq_of_lt (lt_two_pow_of_le ha hm), Nat.sub_eq_zero_of_le h,
      show (BV.repeat b 0).val = 0 by cases b <;> rfl, Nat.zero_mul, Nat.add_zero]
  · cases b
    · exact congrArg (BV.mk m) (congrArg (a.val + ·) (Nat.zero_mul _).symm)
    · rfl

@[bv_bit] theorem resize_bit (a : BV) (m : Nat) (b : Bool) (ha : a.WF) (i : Nat) :
    (a.resize m b).bit i = (decide (i < m) && if i < a.len then a.bit i else b) := by
  by_cases hm : a.len ≤ m
  · rw [resize_eq_append a m b ha hm, append_bit _ _ ha, repeat_bit]
    split
    · rename_i h; rw [decide_eq_true (Nat.lt_of_lt_of_le h hm), Bool.true_and]
    · rename_i h; exact gate_congr (Nat.sub_lt_sub_iff_right (Nat.le_of_not_lt h)) fun _ => rfl
  · have hm := Nat.le_of_not_le hm
    rw [resize_of_le a m b hm, mk_mod_bit]
    exact gate_congr Iff.rfl fun h => by rw [if_pos (Nat.lt_of_lt_of_le h hm)]; rfl

theorem resize_wf (a : BV) (m : Nat) (b : Bool) (ha : a.WF) : (a.resize m b).WF :=
  wf_of_gate _ fun i => by rw [resize_bit a m b ha, resize_len]

theorem resize_self (a : BV) (b : Bool) (h : a.WF) : a.resize a.len b = a := by
  rw [resize_of_le a _ b (Nat.le_refl _), Nat.mod_eq_of_lt h]

theorem resize_zext (a : BV) (m : Nat) (h : a.val < 2 ^ m) : a.resize m false = ⟨m, a.val⟩ := by
  unfold resize
  split
  · rw [Nat.mod_eq_of_lt h]
  · rfl

theorem truncate_zext (a : BV) (ha : a.WF) (m : Nat) (hm : a.len ≤ m) : (BV.mk m a.val).truncate a.len = a := by
  unfold truncate
  split
  · exact (resize_of_le _ _ _ hm).trans (congrArg (BV.mk a.len) (Nat.mod_eq_of_lt ha))
  · rename_i h; rw [show m = a.len from Nat.le_antisymm (Nat.le_of_not_lt h) hm]

theorem resize_resize (a : BV) (m : Nat) (b c : Bool) (ha : a.WF) (hm : a.len ≤ m) : (a.resize m b).resize a.len c = a :=
  have hw := resize_wf a m b ha
  ext_of_wf (resize_wf _ _ _ hw) ha (resize_len _ _ _) fun i hi => by
    rw [resize_len] at hi
    rw [resize_bit _ _ _ hw, resize_len, resize_bit _ _ _ ha, decide_eq_true hi, if_pos (Nat.lt_of_lt_of_le hi hm),
      decide_eq_true (Nat.lt_of_lt_of_le hi hm), if_pos hi]
    rfl

theorem signExtend_truncate (a : BV) (ha : a.WF) (m : Nat) : (a.signExtend m).truncate a.len = a := by
  by_cases h : m > a.len
  · rw [signExtend, if_pos h, truncate, resize_len, if_pos h]
    exact resize_resize a m _ false ha (Nat.le_of_lt h)
  · rw [signExtend, if_neg h, truncate, if_neg (Nat.lt_irrefl _)]

@[bv_bit] theorem copyRange_bit (a : BV) (st en i : Nat) :
    (copyRange a st en).bit i = (decide (i < en - st) && a.bit (st + i)) := by
  unfold copyRange bit
  simp only [Nat.testBit_mod_two_pow, Nat.testBit_shiftRight]

theorem lv_mod_wf (n v : Nat) : (BV.mk n (v % 2 ^ n)).WF := Nat.mod_lt _ (Nat.two_pow_pos n)

theorem lv_copyRange_wf (a : BV) (s e : Nat) : (a.copyRange s e).WF := lv_mod_wf _ _

theorem splitOff_fst_wf (a : BV) (i : Nat) : (splitOff a i).1.WF := lv_mod_wf _ _

theorem splitOff_append (a b : BV) (ha : a.WF) (hb : b.WF) : (a.append b).splitOff a.len = (a, b) := by
  unfold append splitOff copyRange
  rw [Nat.add_sub_cancel_left, Nat.add_mul_mod_self_right, Nat.mod_eq_of_lt ha, Nat.shiftRight_eq_div_pow,
    Nat.add_mul_div_right _ _ (Nat.two_pow_pos _), Nat.div_eq_of_lt ha, Nat.zero_add, Nat.mod_eq_of_lt hb]

theorem copyRange_append_low (a b : BV) (ha : a.WF) (hb : b.WF) : (a.append b).copyRange 0 a.len = a :=
  congrArg Prod.fst (splitOff_append a b ha hb)

theorem copyRange_append_high (a b : BV) (ha : a.WF) (hb : b.WF) : (a.append b).copyRange a.len (a.len + b.len) = b :=
  congrArg Prod.snd (splitOff_append a b ha hb)

theorem shiftRight_lt (a : BV) (ha : a.WF) (k : Nat) (hk : k ≤ a.len) : a.val >>> k < 2 ^ (a.len - k) := by
  rw [Nat.shiftRight_eq_div_pow, Nat.div_lt_iff_lt_mul (Nat.two_pow_pos _), ← Nat.pow_add, Nat.sub_add_cancel hk]
  exact ha

theorem rotr_eq_append (a : BV) (k : Nat) (ha : a.WF) (hk : k ≤ a.len) :
    a.rotr k = (a.copyRange k a.len).append (a.copyRange 0 k) := by
  unfold rotr
  split
  · rename_i h0
    exact ext_of_wf ha (append_wf _ _ (lv_copyRange_wf ..) (lv_copyRange_wf ..))
      (Nat.sub_add_cancel hk).symm fun i hi => absurd hi (h0 ▸ Nat.not_lt_zero i)
  · unfold append copyRange
    rw [Nat.mod_eq_of_lt (shiftRight_lt a ha k hk), Nat.shiftLeft_eq, Nat.shiftRight_zero, Nat.sub_zero,
      Nat.sub_add_cancel hk]

theorem rotr_bit (a : BV) (k i : Nat) (hwf : a.WF) (hk : k ≤ a.len) :
    (a.rotr k).bit i =
      if i < a.len - k then a.bit (i + k) else (decide (i < a.len) && a.bit (i - (a.len - k))) := by
  rw [rotr_eq_append a k hwf hk, append_bit _ _ (lv_copyRange_wf ..), copyRange_bit, copyRange_bit, copyRange_len,
    Nat.zero_add, Nat.sub_zero, Nat.add_comm k]
  split
  · rename_i h; rw [decide_eq_true h, Bool.true_and]
  · rename_i h
    have hiff : i - (a.len - k) < k ↔ i < a.len := by
      rw [Nat.sub_lt_iff_lt_add (Nat.le_of_not_lt h), Nat.add_sub_of_le hk]
    exact gate_congr hiff fun _ => rfl

theorem rotl_eq_rotr (a : BV) (k : Nat) (hk : k ≤ a.len) : a.rotl k = a.rotr (a.len - k) := by
  unfold rotl rotr
  split
  · rfl
  · rw [Nat.sub_sub_self hk, Nat.add_comm (_ % _), Nat.shiftLeft_eq, Nat.shiftLeft_eq,
      show 2 ^ a.len = 2 ^ (a.len - k) * 2 ^ k by rw [← Nat.pow_add, Nat.sub_add_cancel hk], Nat.mul_mod_mul_right]

theorem rotl_bit (a : BV) (k i : Nat) (hwf : a.WF) (hk : k ≤ a.len) :
    (a.rotl k).bit i = if i < k then a.bit (a.len - k + i) else (decide (i < a.len) && a.bit (i - k)) := by
  rw [rotl_eq_rotr a k hk, rotr_bit _ _ _ hwf (Nat.sub_le _ _), Nat.sub_sub_self hk, Nat.add_comm]

/-- `b` is `a` turned by `s` places: bit `i` of `b` is bit `(i + s) mod len` of `a`.  Both rotations are of this
form (`isRot_rotr`, `isRot_rotl`), turns compose by adding the amounts (`IsRot.trans`) and are determined by the amount
modulo the length (`IsRot.eq`): every law about rotations is an equation between amounts modulo `len`. -/
def IsRot (a : BV) (s : Nat) (b : BV) : Prop :=
  b.len = a.len ∧ ∀ i, b.bit i = (decide (i < a.len) && a.bit ((i + s) % a.len))

theorem IsRot.refl (a : BV) (ha : a.WF) : IsRot a 0 a :=
  ⟨rfl, fun i => bit_eq_of_wf a ha fun h => by rw [Nat.add_zero, Nat.mod_eq_of_lt h]⟩

theorem IsRot.wf {a b : BV} {s : Nat} (h : IsRot a s b) : b.WF :=
  wf_of_bits b fun i hi => by rw [h.2, decide_eq_false (Nat.not_lt.mpr (h.1 ▸ hi)), Bool.false_and]

theorem IsRot.trans {a b c : BV} {s t : Nat} (h1 : IsRot a s b) (h2 : IsRot b t c) : IsRot a (s + t) c := by
  refine ⟨h2.1.trans h1.1, fun i => ?_⟩
  rw [h2.2, h1.2, h1.1]
  refine gate_congr Iff.rfl fun hi => ?_
  rw [decide_eq_true (Nat.mod_lt _ (Nat.zero_lt_of_lt hi)), Bool.true_and, Nat.mod_add_mod, Nat.add_assoc, Nat.add_comm t]

theorem IsRot.eq {a b c : BV} {s t : Nat} (h1 : IsRot a s b) (h2 : IsRot a t c) (h : s % a.len = t % a.len) :
    b = c :=
  ext_bits (h1.1.trans h2.1.symm) fun i => by rw [h1.2, h2.2, Nat.add_mod i s, h, ← Nat.add_mod]

theorem rot_index {n i k : Nat} (hi : i < n) (hk : k ≤ n) : (i + k) % n = if i < n - k then i + k else i - (n - k) := by
  obtain ⟨m, rfl⟩ := Nat.exists_eq_add_of_le' hk
  rw [Nat.add_sub_cancel]
  split
  · rename_i h; exact Nat.mod_eq_of_lt (Nat.add_lt_add_right h k)
  · rename_i h
    obtain ⟨d, rfl⟩ := Nat.exists_eq_add_of_le (Nat.le_of_not_lt h)
    rw [Nat.add_right_comm, Nat.add_mod_left, Nat.add_sub_cancel_left,
      Nat.mod_eq_of_lt (Nat.lt_of_lt_of_le (Nat.lt_of_add_lt_add_left hi) (Nat.le_add_left k m))]

theorem isRot_rotr (a : BV) (k : Nat) (ha : a.WF) (hk : k ≤ a.len) : IsRot a k (a.rotr k) := by
  refine ⟨rotr_len a k, fun i => ?_⟩
  rw [rotr_bit a k i ha hk]
  by_cases hi : i < a.len
  · rw [decide_eq_true hi, Bool.true_and, Bool.true_and, rot_index hi hk, apply_ite a.bit]
  · rw [decide_eq_false hi, Bool.false_and, Bool.false_and, if_neg (fun h => hi (Nat.lt_of_lt_of_le h (Nat.sub_le ..)))]

theorem isRot_rotl (a : BV) (k : Nat) (ha : a.WF) (hk : k ≤ a.len) : IsRot a (a.len - k) (a.rotl k) :=
  rotl_eq_rotr a k hk ▸ isRot_rotr a _ ha (Nat.sub_le _ _)

theorem rotl_wf (a : BV) (k : Nat) (hwf : a.WF) (hk : k ≤ a.len) : (a.rotl k).WF := (isRot_rotl a k hwf hk).wf

theorem rotr_wf (a : BV) (k : Nat) (hwf : a.WF) (hk : k ≤ a.len) : (a.rotr k).WF := (isRot_rotr a k hwf hk).wf

theorem IsRot.rotl {a b : BV} {s : Nat} (h : IsRot a s b) (k : Nat) (hk : k ≤ a.len) :
    IsRot a (s + (a.len - k)) (b.rotl k) :=
  h.trans (h.1 ▸ isRot_rotl b k h.wf (h.1 ▸ hk))

theorem IsRot.rotr {a b : BV} {s : Nat} (h : IsRot a s b) (k : Nat) (hk : k ≤ a.len) : IsRot a (s + k) (b.rotr k) :=
  h.trans (isRot_rotr b k h.wf (h.1 ▸ hk))

theorem rotr_rotl (a : BV) (k : Nat) (hwf : a.WF) (hk : k ≤ a.len) : (a.rotl k).rotr k = a :=
  ((isRot_rotl a k hwf hk).rotr k hk).eq (.refl a hwf) (by rw [Nat.sub_add_cancel hk, Nat.mod_self, Nat.zero_mod])

theorem rotl_rotr (a : BV) (k : Nat) (hwf : a.WF) (hk : k ≤ a.len) : (a.rotr k).rotl k = a :=
  ((isRot_rotr a k hwf hk).rotl k hk).eq (.refl a hwf)
    (by rw [Nat.add_sub_cancel' hk, Nat.mod_self, Nat.zero_mod])

end BV
end Bva
