import BvaProofs.Base
/-!
# Bitwise operators

All five bodies compute the used words one by one from the old word at the same index and then mask to `length`.
From such a description of the words and the mask, `bitAt_masked` gives the storage bits of the result.
-/
namespace Bva
variable {w : Nat}

/-- the Boolean connective computed by a `BitOp` -/
def BitOp.apb : BitOp → Bool → Bool → Bool
  | .and, a, b => a && b
  | .or, a, b => a || b
  | .xor, a, b => a ^^ b

/-- the L0 operation specified for a `BitOp` -/
def BitOp.spec : BitOp → BV → BV → BV
  | .and, a, x => a.and x
  | .or, a, x => a.or x
  | .xor, a, x => a.xor x

theorem BitOp.spec_eq_match (op : BitOp) (a x : BV) :
    op.spec a x = (match op with | .and => a.and x | .or => a.or x | .xor => a.xor x) := by
  cases op <;> rfl

theorem BitOp.getLsbD_ap (op : BitOp) (a b : BitVec w) (j : Nat) :
    (op.ap a b).getLsbD j = op.apb (a.getLsbD j) (b.getLsbD j) := by
  cases op
  · exact BitVec.getLsbD_and ..
  · exact BitVec.getLsbD_or ..
  · exact BitVec.getLsbD_xor ..

theorem BitOp.spec_len (op : BitOp) (a x : BV) : (op.spec a x).len = a.len := by
  cases op <;> rfl

theorem BitOp.spec_wf (op : BitOp) (a x : BV) (ha : a.WF) : (op.spec a x).WF := by
  cases op
  · exact BV.and_wf a x ha
  · exact BV.or_wf a x ha
  · exact BV.xor_wf a x ha

theorem BitOp.spec_bit (op : BitOp) (a x : BV) (ha : a.WF) (i : Nat) :
    (op.spec a x).bit i = (decide (i < a.len) && op.apb (a.bit i) (x.bit i)) := by
  -- a bit of `a` is gated by `i < a.len` already, and each connective distributes over the gate
  have e := BV.bit_eq_and a ha i
  cases op
  · exact (BV.and_bit ..).trans ((congrArg (· && x.bit i) e).trans (Bool.and_assoc ..))
  · exact (BV.or_bit ..).trans ((congrArg (· || _) e).trans (Bool.and_or_distrib_left ..).symm)
  · exact (BV.xor_bit ..).trans ((congrArg (Bool.xor · _) e).trans (Bool.and_xor_distrib_left ..).symm)

theorem bitop_refines_of_bits (op : BitOp) (s : Raw w) (x : AnyBv) {d : Array (BitVec w)} (hw : 0 < w) (h : s.Inv)
    (hsz : d.size = s.data.size)
    (hb : ∀ i, bitAt d i = (decide (i < s.length) && op.apb (bitAt s.data i) (x.abs.bit i))) :
    (⟨d, s.length⟩ : Raw w).Inv ∧ (⟨d, s.length⟩ : Raw w).abs = op.spec s.abs x.abs ∧ d.size = s.data.size :=
  have hr := Raw.refines_of_bits ⟨d, s.length⟩ (op.spec s.abs x.abs) hw (op.spec_wf _ _ (h.wf hw))
    (op.spec_len s.abs x.abs).symm (hsz ▸ h.1) fun i => by
      rw [hb, BitOp.spec_bit _ _ _ (h.wf hw), Raw.abs_bit _ _ hw]; rfl
  ⟨hr.1, hr.2, hsz⟩

/-- The specification is spelt out as a `match op` over `BV.and` / `or` / `xor`, so that the statement names the model and
L0 only; it is `op.spec s.abs x.abs` (`BitOp.spec_eq_match`), which is what the proofs and `Api.bitop_refines` use. -/
theorem Bvf.bitopAssign_refines (op : BitOp) (s : Raw w) (x : AnyBv) (hw : 0 < w) (h : s.Inv)
    (hf : ∀ i j, i < s.data.size → j < w →
      (Bvf.rhsWord w s.data.size x i).getLsbD j = x.abs.bit (i * w + j)) :
    (Bvf.bitopAssign op s x).Inv ∧
    (Bvf.bitopAssign op s x).abs =
      (match op with | .and => s.abs.and x.abs | .or => s.abs.or x.abs | .xor => s.abs.xor x.abs) ∧
    (Bvf.bitopAssign op s x).data.size = s.data.size := by
  -- unfolded first, here and below: faced with `(Bvf.bitopAssign op s x).length =?= s.length` the unifier compares `s`
  -- with the whole body before it reduces the projection
  unfold Bvf.bitopAssign
  dsimp only
  rw [← BitOp.spec_eq_match]
  refine bitop_refines_of_bits op s x hw h ((size_mod2n ..).trans (Array.size_mapIdx ..)) fun i => ?_
  refine bitAt_masked (bitAt_mod2n _ _ _ hw) fun hi => ?_
  have hlt := div_lt_size_of_lt_length h hw hi
  rw [bitAt_eq, wd_mapIdx, if_pos hlt, BitOp.getLsbD_ap, hf _ _ hlt (Nat.mod_lt i hw), Nat.div_add_mod']
  rfl

/-- the two word loops of `Bvd::bitop_assign` -/
def Bvd.bitopWords (op : BitOp) (data : Array (BitVec 64)) (used nr : Nat) (fetch : Nat → BitVec 64) :
    Array (BitVec 64) :=
  forRange (min nr used) used (fun i a => a.setIfInBounds i (op.ap (wd a i) 0#64))
    (forRange 0 (min used nr) (fun i a => a.setIfInBounds i (op.ap (wd a i) (fetch i))) data)

theorem Bvd.bitopAssign_eq (op : BitOp) (s : Raw 64) (x : AnyBv) :
    Bvd.bitopAssign op s x =
      { s with data := maskAt (Bvd.bitopWords op s.data (Bvd.capW s.length) (Bvd.rhsWords x).1
          (Bvd.rhsWords x).2) s.length } := rfl

theorem Bvd.bitopWords_spec (op : BitOp) (data : Array (BitVec 64)) (used nr : Nat)
    (fetch : Nat → BitVec 64) :
    (Bvd.bitopWords op data used nr fetch).size = data.size ∧
    ∀ j, wd (Bvd.bitopWords op data used nr fetch) j =
      if j < used ∧ j < data.size then op.ap (wd data j) (if j < nr then fetch j else 0#64)
      else wd data j := by
  unfold Bvd.bitopWords
  rw [Nat.min_comm nr used]
  obtain ⟨a1, a2⟩ := forRange_setWords (fun i x => op.ap x (fetch i)) 0 (min used nr) data
  obtain ⟨b1, b2⟩ := forRange_setWords (fun i x => op.ap x 0#64) (min used nr) used
    (forRange 0 (min used nr) (fun i a => a.setIfInBounds i (op.ap (wd a i) (fetch i))) data)
  refine ⟨b1.trans a1, fun j => ?_⟩
  rw [b2, a1, a2]
  -- word `j` belongs to the first loop if `j < min used nr`, otherwise to the second if `j < used`
  by_cases hm : j < min used nr
  · have c2 : ¬ (min used nr ≤ j ∧ j < used ∧ j < data.size) := fun c => Nat.not_le.mpr hm c.1
    rw [if_neg c2, if_pos (Nat.lt_min.mp hm).2]
    exact ite_congr (propext ⟨fun c => ⟨(Nat.lt_min.mp hm).1, c.2.2⟩, fun c => ⟨Nat.zero_le _, hm, c.2⟩⟩)
      (fun _ => rfl) fun _ => rfl
  · have c1 : ¬ (0 ≤ j ∧ j < min used nr ∧ j < data.size) := fun c => hm c.2.1
    rw [if_neg c1]
    by_cases h1 : j < used ∧ j < data.size
    · rw [if_pos ⟨Nat.le_of_not_lt hm, h1⟩, if_pos h1, if_neg fun c => hm (Nat.lt_min.mpr ⟨h1.1, c⟩)]
    · rw [if_neg fun c => h1 c.2, if_neg h1]

theorem Bvd.bitopAssign_refines (op : BitOp) (s : Raw 64) (x : AnyBv) (h : s.Inv)
    (hf : ∀ i j, j < 64 →
      (if i < (Bvd.rhsWords x).1 then ((Bvd.rhsWords x).2 i).getLsbD j else false) = x.abs.bit (i * 64 + j)) :
    (Bvd.bitopAssign op s x).Inv ∧
    (Bvd.bitopAssign op s x).abs =
      (match op with | .and => s.abs.and x.abs | .or => s.abs.or x.abs | .xor => s.abs.xor x.abs) ∧
    (Bvd.bitopAssign op s x).data.size = s.data.size := by
  have hw : 0 < 64 := by decide
  obtain ⟨hs, hwd⟩ := Bvd.bitopWords_spec op s.data (Bvd.capW s.length) (Bvd.rhsWords x).1 (Bvd.rhsWords x).2
  rw [Bvd.bitopAssign_eq, ← BitOp.spec_eq_match]
  dsimp only
  refine bitop_refines_of_bits op s x hw h ((size_maskAt ..).trans hs) fun i => ?_
  refine bitAt_masked (bitAt_maskAt_of_used _ _ _ hw fun k hk => ?_) fun hi => ?_
  · -- the words from `capW length` on are not written, and zero before
    rw [hwd, if_neg fun c => Nat.not_le.mpr c.1 hk]
    exact h.wd_zero hw k hk
  · have hx := hf (i / 64) (i % 64) (Nat.mod_lt _ hw)
    rw [Nat.div_add_mod'] at hx
    rw [bitAt_eq, hwd, if_pos ⟨div_lt_cap i _ hw hi, div_lt_size_of_lt_length h hw hi⟩, BitOp.getLsbD_ap, ← hx,
      apply_ite (BitVec.getLsbD · (i % 64)), BitVec.getLsbD_zero]
    rfl

theorem testBit_two_pow_sub_one_sub (n v i : Nat) (hv : v < 2 ^ n) :
    (2 ^ n - 1 - v).testBit i = (decide (i < n) && !v.testBit i) :=
  BV.not_bit ⟨n, v⟩ hv i

theorem not_refines_of_bits (s : Raw w) {d : Array (BitVec w)} {N : Nat} (hw : 0 < w) (h : s.Inv)
    (hsz : d.size = N) (hcap : s.length ≤ N * w)
    (hb : ∀ i, bitAt d i = (decide (i < s.length) && !bitAt s.data i)) :
    (⟨d, s.length⟩ : Raw w).Inv ∧ (⟨d, s.length⟩ : Raw w).abs = s.abs.not ∧ d.size = N :=
  have hr := Raw.refines_of_bits ⟨d, s.length⟩ s.abs.not hw (BV.not_wf _) rfl (hsz ▸ hcap) fun i => by
    rw [hb, BV.not_bit _ (h.wf hw), Raw.abs_bit _ _ hw]; rfl
  ⟨hr.1, hr.2, hsz⟩

theorem getLsbD_not_wd (ws : Array (BitVec w)) (i : Nat) (hw : 0 < w) :
    (~~~ wd ws (i / w)).getLsbD (i % w) = !bitAt ws i := by
  rw [BitVec.getLsbD_not, decide_eq_true (Nat.mod_lt i hw), Bool.true_and]; rfl

theorem Bvf.not_refines (s : Raw w) (hw : 0 < w) (h : s.Inv) :
    (Bvf.not s).Inv ∧ (Bvf.not s).abs = s.abs.not ∧ (Bvf.not s).data.size = s.data.size := by
  unfold Bvf.not
  dsimp only
  refine not_refines_of_bits s hw h ((size_mod2n ..).trans (Array.size_map ..)) h.1 fun i => ?_
  refine bitAt_masked (bitAt_mod2n _ _ _ hw) fun hi => ?_
  rw [bitAt_eq, wd_map, if_pos (div_lt_size_of_lt_length h hw hi), getLsbD_not_wd _ _ hw]

theorem Bvd.not_refines (s : Raw 64) (h : s.Inv) :
    (Bvd.not s).Inv ∧ (Bvd.not s).abs = s.abs.not ∧ (Bvd.not s).data.size = s.data.size := by
  have hw : 0 < 64 := by decide
  obtain ⟨hs, hwd⟩ := forRange_setWords (fun _ x => ~~~ x) 0 (Bvd.capW s.length) s.data
  unfold Bvd.not
  dsimp only
  refine not_refines_of_bits s hw h ((size_maskAt ..).trans hs) h.1 fun i => ?_
  refine bitAt_masked (bitAt_maskAt_of_used _ _ _ hw fun k hk => ?_) fun hi => ?_
  · rw [hwd, if_neg fun c => Nat.not_le.mpr c.2.1 hk]
    exact h.wd_zero hw k hk
  · rw [bitAt_eq, hwd, if_pos ⟨Nat.zero_le _, div_lt_cap i _ hw hi, div_lt_size_of_lt_length h hw hi⟩,
      getLsbD_not_wd _ _ hw]

theorem Bvd.notRef_refines (s : Raw 64) (h : s.Inv) :
    (Bvd.notRef s).Inv ∧ (Bvd.notRef s).abs = s.abs.not ∧
    (Bvd.notRef s).data.size = Bvd.capW s.length := by
  have hw : 0 < 64 := by decide
  have hmin : min (Bvd.capW s.length) s.data.size = Bvd.capW s.length :=
    Nat.min_eq_left (h.cap_le_size hw)
  unfold Bvd.notRef
  dsimp only
  refine not_refines_of_bits s hw h ((size_maskAt ..).trans ((Array.size_ofFn ..).trans hmin)) (le_cap_mul _ hw)
    fun i => ?_
  refine bitAt_masked (bitAt_maskAt_of_used _ _ _ hw fun k hk => ?_) fun hi => ?_
  · rw [wd_ofFn, dif_neg (by rw [hmin]; exact Nat.not_lt.mpr hk)]
  · rw [bitAt_eq, wd_ofFn, dif_pos (by rw [hmin]; exact div_lt_cap i _ hw hi)]
    exact getLsbD_not_wd _ _ hw

end Bva
