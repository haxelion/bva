import BvaProofs.Count
import BvaProofs.Rechunk
import BvaModel.Auto
/-!
The `Hasher` call streams of `Bvf`, `Bvd`, `Bv` are one function (`specHash`) of the value.
-/
namespace Bva
variable {w : Nat}

/-- the hash stream of an abstract bit vector for word width `wWord` (same as `Drv.specHash`).  The first item has width 64
because `significant_bits()` is hashed as a `usize`. -/
def specHash (wWord : Nat) (a : BV) : List (Nat × Nat) :=
  (64, a.sig) :: (List.range ((a.sig + wWord - 1) / wWord)).map
    fun i => (wWord, (a.val >>> (wWord * i)) % 2 ^ wWord)

theorem Bvf.hashStream_eq (s : Raw w) (hw : 0 < w) (h : s.Inv) :
    Bvf.hashStream s = specHash w s.abs := by
  unfold Bvf.hashStream specHash capFromBitLen
  simp only [Raw.sigBits_eq s hw h, toNat_wd hw]
  rfl

theorem Bvd.hashStream_eq (s : Raw 64) (h : s.Inv) :
    Bvd.hashStream s = specHash 64 s.abs := by
  unfold Bvd.hashStream specHash Bvd.capW capFromBitLen
  simp only [Raw.sigBits_eq s (by decide) h, toNat_wd (by decide : 0 < 64)]
  rfl

theorem Bv.hashStream_eq (b : Bv) (h : b.raw.Inv) :
    Bv.hashStream b = specHash 64 b.abs := by
  unfold Bv.hashStream specHash Bv.abs
  simp only [Raw.sigBits_eq b.raw (by decide) h, Raw.getInt_toNat b.raw ⟨by decide, by decide, Or.inl (Nat.dvd_refl _)⟩ h,
    Nat.mul_comm _ 64]
  rfl

theorem specHash_congr (wWord : Nat) {a b : BV} (h : a.val = b.val) :
    specHash wWord a = specHash wWord b := by
  unfold specHash BV.sig
  rw [h]

theorem Bvf.hashStream_congr (s t : Raw w) (hw : 0 < w) (hs : s.Inv) (ht : t.Inv)
    (h : s.abs.val = t.abs.val) : Bvf.hashStream s = Bvf.hashStream t := by
  rw [Bvf.hashStream_eq s hw hs, Bvf.hashStream_eq t hw ht, specHash_congr w h]

theorem Bvd.hashStream_congr (s t : Raw 64) (hs : s.Inv) (ht : t.Inv)
    (h : s.abs.val = t.abs.val) : Bvd.hashStream s = Bvd.hashStream t := by
  rw [Bvd.hashStream_eq s hs, Bvd.hashStream_eq t ht, specHash_congr 64 h]

theorem Bv.hashStream_congr (a b : Bv) (ha : a.raw.Inv) (hb : b.raw.Inv)
    (h : a.abs.val = b.abs.val) : Bv.hashStream a = Bv.hashStream b := by
  rw [Bv.hashStream_eq a ha, Bv.hashStream_eq b hb, specHash_congr 64 h]

theorem Bv.hashStream_fixed_dynamic (s t : Raw 64) (hs : s.Inv) (ht : t.Inv)
    (h : s.abs.val = t.abs.val) : Bv.hashStream (.fixed s) = Bv.hashStream (.dynamic t) :=
  Bv.hashStream_congr (.fixed s) (.dynamic t) hs ht h

theorem Bv.hashStream_eq_Bvd (b : Bv) (h : b.raw.Inv) : Bv.hashStream b = Bvd.hashStream b.raw := by
  rw [Bv.hashStream_eq b h, Bvd.hashStream_eq b.raw h]; rfl

theorem Bv.hashStream_eq_Bvf (b : Bv) (h : b.raw.Inv) : Bv.hashStream b = Bvf.hashStream b.raw := by
  rw [Bv.hashStream_eq b h, Bvf.hashStream_eq b.raw (by decide) h]; rfl

end Bva
