import BvaProofs.Base
/-!
# Carry chains

Everything is said once, for a chain that carries (`sub = false`) or borrows (`sub = true`): the model's
`addsubAssign` functions take the same flag.  The multiplication rows (`Mul.lean`) are chains too.
-/
namespace Bva
variable {w : Nat}

/-- One step of a carry or borrow chain in base `P`, without subtraction: `new = old ± (d + c) ∓ P·k` for
carry-in `c` and carry-out `k`.  A subtraction is an addition with old and new value swapped: the old value is the
sum of the new one, the subtrahend and the borrow-in, with the borrow-out as its carry.  So a fact proved of the first
equation for all `new` and `old` (the `add` of the proofs below) holds of both. -/
def CarryEq (sub : Bool) (P new old d c k : Nat) : Prop :=
  match sub with
  | false => new + P * k = old + d + c
  | true => old + P * k = new + d + c

theorem CarryEq.le_one {sub : Bool} {P new old d c k : Nat} (h : CarryEq sub P new old d c k)
    (hn : new < P) (ho : old < P) (hd : d < P) (hc : c ≤ 1) : k ≤ 1 := by
  have add : ∀ {new old : Nat}, new + P * k = old + d + c → old < P → k ≤ 1 := fun {new old} h ho =>
    Nat.le_of_lt_succ (Nat.lt_of_mul_lt_mul_left (a := P) (calc
      P * k ≤ new + P * k := Nat.le_add_left _ _
      _ = old + (d + c) := h.trans (Nat.add_assoc _ _ _)
      _ < P + P := Nat.add_lt_add_of_lt_of_le ho (Nat.le_trans (Nat.add_le_add_left hc d) hd)
      _ = P * 2 := (Nat.mul_two P).symm))
  cases sub
  · exact add h ho
  · exact add h hn

/-- a chain in base `P` followed by a digit step in base `X` is a chain in base `P * X` -/
theorem CarryEq.step {sub : Bool} {P X V V0 D c0 k x' x d k' : Nat} (h : CarryEq sub P V V0 D c0 k)
    (hs : CarryEq sub X x' x d k k') :
    CarryEq sub (P * X) (V + P * x') (V0 + P * x) (D + P * d) c0 k' := by
  have add : ∀ {V V0 x' x : Nat}, V + P * k = V0 + D + c0 → x' + X * k' = x + d + k →
      V + P * x' + P * X * k' = V0 + P * x + (D + P * d) + c0 := by
    intro V V0 x' x h hs
    -- `P` times `hs`; of what comes out, `V + P·k` is the left side of `h`; the rest is reordering
    rw [Nat.add_assoc, Nat.mul_assoc, ← Nat.mul_add, hs, Nat.mul_add, Nat.mul_add, Nat.add_comm _ (P * k), ← Nat.add_assoc,
      h, Nat.add_right_comm, Nat.add_add_add_comm]
  cases sub
  · exact add h hs
  · exact add h hs

/-- two steps on the same digit, first `a` then `b`, are one step with the carries added -/
theorem CarryEq.two {sub : Bool} {X v1 v2 x a b k1 k2 : Nat} (h1 : CarryEq sub X v1 x a 0 k1)
    (h2 : CarryEq sub X v2 v1 b 0 k2) : CarryEq sub X v2 x b a (k1 + k2) := by
  -- `m` is the value in between; a subtraction is the same two steps taken from the new value back to the old one, so
  -- `a` and `b`, and the two carries, change places
  have add : ∀ {lo m hi a b k k' : Nat}, m + X * k = lo + a + 0 → hi + X * k' = m + b + 0 →
      hi + X * (k + k') = lo + b + a := by
    intro lo m hi a b k k' h1 h2
    rw [Nat.add_zero] at h1 h2
    rw [Nat.mul_add, Nat.add_left_comm, h2, ← Nat.add_assoc, Nat.add_comm _ m, h1, Nat.add_right_comm]
  cases sub
  · exact add h1 h2
  · exact Nat.add_comm k2 k1 ▸ (add h2 h1).trans (Nat.add_right_comm ..)

theorem sub_mod_of_add_mod {D S X L : Nat} (hL : 0 < L) (h : S % L = (D + X) % L) :
    D % L = (S + L - X % L) % L := by
  have hx : X % L ≤ L := Nat.le_of_lt (Nat.mod_lt X hL)
  have e : (X + (L - X % L)) % L = 0 := by rw [← Nat.mod_add_mod, Nat.add_sub_of_le hx, Nat.mod_self]
  rw [Nat.add_sub_assoc hx, ← Nat.mod_add_mod S L, h, Nat.mod_add_mod, Nat.add_assoc, Nat.add_mod, e, Nat.add_zero,
    Nat.mod_mod]

/-- closing a chain over `M = 2^(w·N)` for a vector of `L = 2^len` values: the carry-out, and whatever the
operand has beyond `M`, vanish modulo `L` -/
theorem CarryEq.final {sub : Bool} {M L D S X c : Nat} (h : CarryEq sub M D S (X % M) 0 c) (hd : L ∣ M)
    (hL : 0 < L) : D % L = if sub then (S + L - X % L) % L else (S + X) % L := by
  obtain ⟨q, rfl⟩ := hd
  have add : ∀ {D S : Nat}, D + L * q * c = S + X % (L * q) + 0 → D % L = (S + X) % L := by
    intro D S h
    rw [← Nat.add_mul_mod_self_left D L (q * c), ← Nat.mul_assoc, h, Nat.add_zero, Nat.add_mod,
      Nat.mod_mod_of_dvd _ ⟨q, rfl⟩, ← Nat.add_mod]
  cases sub
  · exact add h
  · exact sub_mod_of_add_mod hL (add h)

theorem toNat_b2w (hw : 0 < w) (b : Bool) : (b2w w b).toNat = b.toNat := by
  have : 1 < (2 : Nat) ^ w := Nat.one_lt_two_pow (Nat.ne_of_gt hw)
  cases b <;> simp [b2w, Nat.mod_eq_of_lt this]

/-- the Rust non-wrapping `c1 as Self + c2 as Self` does not overflow: `1 + 1 < 2^w`, which is where `2 ≤ w` comes from -/
theorem b2w_add_no_overflow (hw : 2 ≤ w) (c1 c2 : Bool) :
    (b2w w c1).toNat + (b2w w c2).toNat < 2 ^ w := by
  rw [toNat_b2w (Nat.zero_lt_of_lt hw), toNat_b2w (Nat.zero_lt_of_lt hw)]
  exact Nat.lt_of_lt_of_le (Nat.add_lt_add (Bool.toNat_lt c1) (Bool.toNat_lt c2)) (Nat.pow_le_pow_right (by decide) hw : 2 ^ 2 ≤ 2 ^ w)

theorem toNat_b2w_add (hw : 2 ≤ w) (c1 c2 : Bool) :
    (b2w w c1 + b2w w c2).toNat = c1.toNat + c2.toNat := by
  rw [BitVec.toNat_add, Nat.mod_eq_of_lt (b2w_add_no_overflow hw c1 c2),
    toNat_b2w (Nat.zero_lt_of_lt hw), toNat_b2w (Nat.zero_lt_of_lt hw)]

/-- `a.overflowing_add(b)`: the wrapped sum and the overflow flag -/
theorem toNat_add_carry (a b : BitVec w) :
    CarryEq false (2 ^ w) (a + b).toNat a.toNat b.toNat 0 (BitVec.carry w a b false).toNat := by
  show (a + b).toNat + 2 ^ w * (BitVec.carry w a b false).toNat = a.toNat + b.toNat + 0
  rw [BitVec.toNat_add, show BitVec.carry w a b false = decide (2 ^ w ≤ a.toNat + b.toNat) from
    BitVec.carry_width]
  by_cases h : 2 ^ w ≤ a.toNat + b.toNat
  · rw [decide_eq_true h, Nat.mod_eq_sub_mod h,
      Nat.mod_eq_of_lt (Nat.sub_lt_left_of_lt_add h (Nat.add_lt_add a.isLt b.isLt)), Bool.toNat_true, Nat.mul_one,
      Nat.sub_add_cancel h]
    rfl
  · rw [decide_eq_false h, Nat.mod_eq_of_lt (Nat.lt_of_not_le h)]
    rfl

/-- `a.overflowing_sub(b)`: the wrapped difference and the borrow flag -/
theorem toNat_sub_borrow (a b : BitVec w) :
    CarryEq true (2 ^ w) (a - b).toNat a.toNat b.toNat 0 (decide (a.toNat < b.toNat)).toNat := by
  show a.toNat + 2 ^ w * (decide (a.toNat < b.toNat)).toNat = (a - b).toNat + b.toNat + 0
  by_cases h : a.toNat < b.toNat
  · -- the difference wraps: `2^w - (b - a) + b = 2^w + (b - (b - a))`
    rw [decide_eq_true h, Bool.toNat_true, Nat.mul_one, BitVec.toNat_sub_of_lt h,
      ← Nat.sub_add_comm (Nat.le_trans (Nat.sub_le _ _) (Nat.le_of_lt b.isLt)),
      Nat.add_sub_assoc (Nat.sub_le _ _), Nat.sub_sub_self (Nat.le_of_lt h), Nat.add_zero, Nat.add_comm]
  · rw [decide_eq_false h, BitVec.toNat_sub_of_le (BitVec.le_def.mpr (Nat.le_of_not_lt h)),
      Nat.sub_add_cancel (Nat.le_of_not_lt h)]
    rfl

theorem cadd_spec (hw : 2 ≤ w) (a b c : BitVec w) :
    (cadd a b c).1.toNat + 2 ^ w * (cadd a b c).2.toNat = a.toNat + b.toNat + c.toNat := by
  have h := (toNat_add_carry a b).two (toNat_add_carry (a + b) c)
  simp only [cadd, toNat_b2w_add hw]
  exact h.trans (Nat.add_right_comm _ _ _)

theorem cadd_carry_le (hw : 2 ≤ w) (a b c : BitVec w) : (cadd a b c).2.toNat ≤ 2 := by
  simp only [cadd, toNat_b2w_add hw]
  generalize BitVec.carry w a b false = c1
  generalize BitVec.carry w (a + b) c false = c2
  cases c1 <;> cases c2 <;> simp

theorem csub_spec (hw : 2 ≤ w) (a b c : BitVec w) :
    (csub a b c).1.toNat + b.toNat + c.toNat = a.toNat + 2 ^ w * (csub a b c).2.toNat := by
  have h := (toNat_sub_borrow a b).two (toNat_sub_borrow (a - b) c)
  simp only [csub, toNat_b2w_add hw]
  exact (Nat.add_right_comm _ _ _).trans h.symm

/-- what the chain needs of its word primitive (both Rust carry conventions satisfy it) -/
def IsCarryPrim (sub : Bool) (prim : BitVec w → BitVec w → BitVec w → BitVec w × BitVec w) : Prop :=
  ∀ x y c : BitVec w, c.toNat ≤ 1 →
    CarryEq sub (2 ^ w) (prim x y c).1.toNat x.toNat y.toNat c.toNat (prim x y c).2.toNat

theorem cadd_isCarryPrim (hw : 2 ≤ w) : IsCarryPrim false (@cadd w) := fun x y c _ => cadd_spec hw x y c

theorem csub_isCarryPrim (hw : 2 ≤ w) : IsCarryPrim true (@csub w) := fun x y c _ => (csub_spec hw x y c).symm

theorem addsubPrim_isCarryPrim (hw : 2 ≤ w) (sub : Bool) :
    IsCarryPrim sub (if sub then @csub w else @cadd w) := by
  cases sub
  · exact cadd_isCarryPrim hw
  · exact csub_isCarryPrim hw

/-- the `Bvd` loop body as a carry primitive: `overflowing_*` twice, carry `c1 || c2` -/
def Bvd.prim2 (sub : Bool) (x y c : BitVec 64) : BitVec 64 × BitVec 64 :=
  let r1 := Bvd.ovf sub x c
  let r2 := Bvd.ovf sub r1.1 y
  (r2.1, b2w 64 (r1.2 || r2.2))

theorem Bvd.ovf_spec (sub : Bool) (a b : BitVec 64) :
    CarryEq sub (2 ^ 64) (Bvd.ovf sub a b).1.toNat a.toNat b.toNat 0 (Bvd.ovf sub a b).2.toNat := by
  cases sub
  · exact toNat_add_carry a b
  · exact toNat_sub_borrow a b

/-- the two flags cannot both be set when the carry-in is at most one, so `||` adds them -/
theorem Bvd.prim2_isCarryPrim (sub : Bool) : IsCarryPrim sub (Bvd.prim2 sub) := by
  intro x y c hc
  have h := (Bvd.ovf_spec sub x c).two (Bvd.ovf_spec sub (Bvd.ovf sub x c).1 y)
  have hk := h.le_one (BitVec.isLt _) x.isLt y.isLt hc
  simp only [Bvd.prim2, toNat_b2w (by decide : 0 < 64)]
  generalize (Bvd.ovf sub (Bvd.ovf sub x c).1 y).2 = c2 at h hk
  generalize (Bvd.ovf sub x c).2 = c1 at h hk
  have e : (c1 || c2).toNat = c1.toNat + c2.toNat := by
    cases c1 <;> cases c2 <;> first | rfl | exact absurd hk (by decide)
  rw [e]
  exact h

/-- the loop body of `Bvf.chain`; the two loops of `Bvd.addsubAssign` are instances of it too (`Bvd.addsubLoops`) -/
def chainStep (prim : BitVec w → BitVec w → BitVec w → BitVec w × BitVec w) (fetch : Nat → BitVec w)
    (i : Nat) (p : Array (BitVec w) × BitVec w) : Array (BitVec w) × BitVec w :=
  let r := prim (wd p.1 i) (fetch i) p.2
  (p.1.setIfInBounds i r.1, r.2)

theorem valUpTo_set_succ (a : Array (BitVec w)) (n : Nat) (x : BitVec w) (hn : n < a.size) :
    valUpTo (a.setIfInBounds n x) (n + 1) = valUpTo a n + 2 ^ (w * n) * x.toNat := by
  rw [valUpTo, wd_setIfInBounds, if_pos ⟨rfl, hn⟩, valUpTo_congr (a.setIfInBounds n x) a n
    (fun t ht => by rw [wd_setIfInBounds, if_neg (fun h => Nat.ne_of_gt ht h.1)])]

/-- Invariant of a chain over `a0` after the words `< n`: the rest is untouched, and the words written
so far are `old ± (D + c0)` up to the carry.  `D` is what has been added, as a number. -/
def ChainInv (sub : Bool) (a0 : Array (BitVec w)) (D c0 n : Nat) (p : Array (BitVec w) × BitVec w) : Prop :=
  p.1.size = a0.size ∧ (∀ t, n ≤ t → wd p.1 t = wd a0 t) ∧
    CarryEq sub (2 ^ (w * n)) (valUpTo p.1 n) (valUpTo a0 n) D c0 p.2.toNat

theorem ChainInv.init (sub : Bool) (ws : Array (BitVec w)) (c0 : BitVec w) :
    ChainInv sub ws 0 c0.toNat 0 (ws, c0) :=
  ⟨rfl, fun _ _ => rfl, by cases sub <;> simp [CarryEq, valUpTo]⟩

theorem ChainInv.carry_le_one {sub : Bool} {a0 : Array (BitVec w)} {D c0 n : Nat}
    {p : Array (BitVec w) × BitVec w} (h : ChainInv sub a0 D c0 n p) (hD : D < 2 ^ (w * n)) (hc : c0 ≤ 1) :
    p.2.toNat ≤ 1 :=
  h.2.2.le_one (valUpTo_lt _ _) (valUpTo_lt _ _) hD hc

/-- for any new word `x'` and carry `k'` that add `d` to word `n`, so that the multiplication rows (`mul_row_spec`),
whose carry is a whole word, step by it too -/
theorem ChainInv.step {sub : Bool} {a0 : Array (BitVec w)} {D c0 n : Nat} {p : Array (BitVec w) × BitVec w}
    (h : ChainInv sub a0 D c0 n p) (hn : n < a0.size) {x' k' : BitVec w} {d : Nat}
    (hr : CarryEq sub (2 ^ w) x'.toNat (wd p.1 n).toNat d p.2.toNat k'.toNat) :
    ChainInv sub a0 (D + 2 ^ (w * n) * d) c0 (n + 1) (p.1.setIfInBounds n x', k') := by
  obtain ⟨h1, h2, h3⟩ := h
  have hi : n < p.1.size := Nat.lt_of_lt_of_eq hn h1.symm
  refine ⟨(Array.size_setIfInBounds ..).trans h1, fun t ht => ?_, ?_⟩
  · dsimp only
    rw [wd_setIfInBounds, if_neg (fun h => Nat.ne_of_lt ht h.1)]
    exact h2 t (Nat.le_of_succ_le ht)
  · dsimp only
    rw [valUpTo_set_succ _ _ _ hi, two_pow_succ_mul, valUpTo, ← h2 n (Nat.le_refl _)]
    exact h3.step hr

theorem ChainInv.loop {sub : Bool} {prim} (hp : IsCarryPrim (w := w) sub prim) {a0 : Array (BitVec w)}
    (f : Nat → BitVec w) {g : Nat → BitVec w} {c0 lo hi : Nat} (hc : c0 ≤ 1) (hle : lo ≤ hi) (hhi : hi ≤ a0.size)
    (hg : ∀ t, lo ≤ t → t < hi → g t = f t) {p : Array (BitVec w) × BitVec w}
    (h : ChainInv sub a0 (valF f lo) c0 lo p) :
    ChainInv sub a0 (valF f hi) c0 hi (forRange lo hi (chainStep prim g) p) :=
  forRange_inv (fun n => ChainInv sub a0 (valF f n) c0 n) (chainStep prim g) lo hi hle
    (fun n s h1 h2 hP => by
      have := hP.step (Nat.lt_of_lt_of_le h2 hhi) (hp _ (g n) _ (hP.carry_le_one (valF_lt f n) hc))
      rwa [congrArg BitVec.toNat (hg n h1 h2)] at this) p h

theorem chain_spec {sub : Bool} {prim} (hp : IsCarryPrim (w := w) sub prim) (ws : Array (BitVec w))
    (f : Nat → BitVec w) (N : Nat) (c0 : BitVec w) (hN : N ≤ ws.size) (hc : c0.toNat ≤ 1) :
    ChainInv sub ws (valF f N) c0.toNat N (Bvf.chain prim ws f 0 N c0) ∧
      (Bvf.chain prim ws f 0 N c0).2.toNat ≤ 1 :=
  have h := ChainInv.loop hp f hc (Nat.zero_le N) hN (fun _ _ _ => rfl) (ChainInv.init sub ws c0)
  ⟨h, h.carry_le_one (valF_lt f N) hc⟩

theorem chain_cadd (hw : 2 ≤ w) (ws : Array (BitVec w)) (f : Nat → BitVec w)
    (N : Nat) (c0 : BitVec w) (hN : N ≤ ws.size) (hc : c0.toNat ≤ 1) :
    valUpTo (Bvf.chain cadd ws f 0 N c0).1 N + 2 ^ (w * N) * (Bvf.chain cadd ws f 0 N c0).2.toNat
        = valUpTo ws N + valF f N + c0.toNat ∧
      (Bvf.chain cadd ws f 0 N c0).1.size = ws.size ∧
      (Bvf.chain cadd ws f 0 N c0).2.toNat ≤ 1 ∧
      ∀ t, N ≤ t → wd (Bvf.chain cadd ws f 0 N c0).1 t = wd ws t :=
  have ⟨⟨h1, h2, h3⟩, h4⟩ := chain_spec (cadd_isCarryPrim hw) ws f N c0 hN hc
  ⟨h3, h1, h4, h2⟩

theorem chain_csub (hw : 2 ≤ w) (ws : Array (BitVec w)) (f : Nat → BitVec w)
    (N : Nat) (c0 : BitVec w) (hN : N ≤ ws.size) (hc : c0.toNat ≤ 1) :
    valUpTo (Bvf.chain csub ws f 0 N c0).1 N + valF f N + c0.toNat
        = valUpTo ws N + 2 ^ (w * N) * (Bvf.chain csub ws f 0 N c0).2.toNat ∧
      (Bvf.chain csub ws f 0 N c0).1.size = ws.size ∧
      (Bvf.chain csub ws f 0 N c0).2.toNat ≤ 1 ∧
      ∀ t, N ≤ t → wd (Bvf.chain csub ws f 0 N c0).1 t = wd ws t :=
  have ⟨⟨h1, h2, h3⟩, h4⟩ := chain_spec (csub_isCarryPrim hw) ws f N c0 hN hc
  ⟨Eq.symm h3, h1, h4, h2⟩

theorem valUpTo_mod2n (hw : 0 < w) (ws : Array (BitVec w)) (n N : Nat) :
    valUpTo (mod2n ws n) N = valUpTo ws N % 2 ^ n := by
  apply Nat.eq_of_testBit_eq
  intro i
  rw [Nat.testBit_mod_two_pow, testBit_valUpTo hw, testBit_valUpTo hw, bitAt_mod2n _ _ _ hw,
    Bool.and_comm (decide (i < n)), Bool.and_assoc]

theorem valAll_lt_of_inv {s : Raw w} (h : s.Inv) (hw : 0 < w) : valAll s.data < 2 ^ s.length :=
  Raw.Inv.wf h hw

theorem Bvf.addsubAssign_refines (sub : Bool) (s : Raw w) (x : AnyBv) (hw : 2 ≤ w) (h : s.Inv)
    (hf : valF (Bvf.rhsWord w s.data.size x) s.data.size = x.abs.val % 2 ^ (w * s.data.size)) :
    (Bvf.addsubAssign sub s x).Inv ∧
      (Bvf.addsubAssign sub s x).abs = (if sub then s.abs.sub x.abs else s.abs.add x.abs) ∧
      (Bvf.addsubAssign sub s x).data.size = s.data.size := by
  obtain ⟨⟨c1, _, c3⟩, _⟩ := chain_spec (addsubPrim_isCarryPrim hw sub) s.data
    (Bvf.rhsWord w s.data.size x) s.data.size 0#w (Nat.le_refl _) (by simp)
  unfold Bvf.addsubAssign
  simp only
  generalize Bvf.chain _ s.data (Bvf.rhsWord w s.data.size x) 0 s.data.size 0#w = r at c1 c3
  have hw0 : 0 < w := Nat.zero_lt_of_lt hw
  obtain ⟨m1, m2⟩ := Raw.refines_mod_of_bits hw0 (d := r.1) s.length (by rw [size_mod2n, c1]; exact h.1)
    (fun i => bitAt_mod2n r.1 s.length i hw0)
  refine ⟨m1, m2.trans ?_, by simp only [size_mod2n, c1]⟩
  rw [hf, ← c1] at c3
  have := c3.final (L := 2 ^ s.length) (Nat.pow_dvd_pow 2 (by rw [c1, Nat.mul_comm]; exact h.1))
    (Nat.two_pow_pos _)
  rw [valAll, this, c1]
  cases sub <;> rfl

theorem Bvf.addsubAssign_add (s : Raw w) (x : AnyBv) (hw : 2 ≤ w) (h : s.Inv)
    (hf : valF (Bvf.rhsWord w s.data.size x) s.data.size = x.abs.val % 2 ^ (w * s.data.size)) :
    (Bvf.addsubAssign false s x).Inv ∧ (Bvf.addsubAssign false s x).abs = s.abs.add x.abs :=
  have r := Bvf.addsubAssign_refines false s x hw h hf
  ⟨r.1, r.2.1⟩

theorem Bvf.addsubAssign_sub (s : Raw w) (x : AnyBv) (hw : 2 ≤ w) (h : s.Inv)
    (hf : valF (Bvf.rhsWord w s.data.size x) s.data.size = x.abs.val % 2 ^ (w * s.data.size)) :
    (Bvf.addsubAssign true s x).Inv ∧ (Bvf.addsubAssign true s x).abs = s.abs.sub x.abs :=
  have r := Bvf.addsubAssign_refines true s x hw h hf
  ⟨r.1, r.2.1⟩

theorem Bvd.ovf_zero (sub : Bool) (a : BitVec 64) : Bvd.ovf sub a 0#64 = (a, false) := by
  have := a.isLt
  cases sub <;> simp [Bvd.ovf, BitVec.carry_width]
  omega

/-- the state after the two loops of `Bvd.addsubAssign`, as two generic chains -/
def Bvd.addsubLoops (sub : Bool) (s : Raw 64) (x : AnyBv) : Array (BitVec 64) × BitVec 64 :=
  forRange (Bvd.rhsWords x).1 (Bvd.capW s.length) (chainStep (Bvd.prim2 sub) (fun _ => 0#64))
    (forRange 0 (min (Bvd.capW s.length) (Bvd.rhsWords x).1)
      (chainStep (Bvd.prim2 sub) (Bvd.rhsWords x).2) (s.data, 0#64))

theorem Bvd.addsubAssign_eq (sub : Bool) (s : Raw 64) (x : AnyBv) :
    Bvd.addsubAssign sub s x = { s with data := maskAt (Bvd.addsubLoops sub s x).1 s.length } := by
  have e2 : (fun i (p : Array (BitVec 64) × BitVec 64) =>
      let (d1, c) := Bvd.ovf sub (wd p.1 i) p.2
      (p.1.setIfInBounds i d1, b2w 64 c)) = chainStep (Bvd.prim2 sub) (fun _ => 0#64) := by
    funext i p
    simp only [chainStep, Bvd.prim2, Bvd.ovf_zero, Bool.or_false]
  unfold Bvd.addsubAssign
  simp only [e2]
  rfl

/-- right-hand side of `Bvd (op)= x`, padded with zero words -/
def Bvd.padded (x : AnyBv) : Nat → BitVec 64 :=
  fun i => if i < (Bvd.rhsWords x).1 then (Bvd.rhsWords x).2 i else 0#64

theorem Bvd.valF_padded (x : AnyBv)
    (hf : ∀ n, n ≤ (Bvd.rhsWords x).1 → valF (Bvd.rhsWords x).2 n = x.abs.val % 2 ^ (64 * n))
    (hx : x.abs.val < 2 ^ (64 * (Bvd.rhsWords x).1)) (n : Nat) :
    valF (Bvd.padded x) n = x.abs.val % 2 ^ (64 * n) := by
  have hpad : ∀ m, m ≤ (Bvd.rhsWords x).1 → valF (Bvd.padded x) m = x.abs.val % 2 ^ (64 * m) := fun m hm =>
    (valF_congr _ _ m fun t ht => if_pos (Nat.lt_of_lt_of_le ht hm)).trans (hf m hm)
  by_cases hn : n ≤ (Bvd.rhsWords x).1
  · exact hpad n hn
  · obtain ⟨k, rfl⟩ := Nat.exists_eq_add_of_le (Nat.le_of_not_le hn)
    rw [valF_zero_tail (Bvd.padded x) _ k (fun t ht => if_neg (Nat.not_lt.mpr ht)), hpad _ (Nat.le_refl _),
      Nat.mod_eq_of_lt hx, Nat.mod_eq_of_lt (lt_two_pow_of_le hx (Nat.mul_le_mul_left 64 (Nat.le_add_right _ k)))]

theorem Bvd.addsubLoops_inv (sub : Bool) (s : Raw 64) (x : AnyBv) (hu : Bvd.capW s.length ≤ s.data.size) :
    ChainInv sub s.data (valF (Bvd.padded x) (Bvd.capW s.length)) 0 (Bvd.capW s.length)
      (Bvd.addsubLoops sub s x) := by
  unfold Bvd.addsubLoops
  have hp := Bvd.prim2_isCarryPrim sub
  have h0 := ChainInv.init sub s.data 0#64
  by_cases hn : (Bvd.rhsWords x).1 ≤ Bvd.capW s.length
  · rw [Nat.min_eq_right hn]
    exact ChainInv.loop hp (Bvd.padded x) (Nat.zero_le _) hn hu (fun t h1 _ => (if_neg (Nat.not_lt.mpr h1)).symm)
      (ChainInv.loop hp (Bvd.padded x) (Nat.zero_le _) (Nat.zero_le _) (Nat.le_trans hn hu)
        (fun t _ h2 => (if_pos h2).symm) h0)
  · have hn := Nat.le_of_lt (Nat.lt_of_not_le hn)
    rw [Nat.min_eq_left hn, forRange_empty _ _ hn]
    exact ChainInv.loop hp (Bvd.padded x) (Nat.zero_le _) (Nat.zero_le _) hu
      (fun t _ h2 => (if_pos (Nat.lt_of_lt_of_le h2 hn)).symm) h0

theorem valAll_maskAt (hw : 0 < w) (ws : Array (BitVec w)) (n : Nat)
    (hz : ∀ j, (n / w + 1) * w ≤ j → bitAt ws j = false) :
    valAll (maskAt ws n) = valAll ws % 2 ^ n := by
  apply Nat.eq_of_testBit_eq
  intro i
  unfold valAll
  rw [Nat.testBit_mod_two_pow, testBit_valUpTo hw, testBit_valUpTo hw, bitAt_maskAt _ _ _ hw hz,
    size_maskAt, Bool.and_comm (decide (i < n)), Bool.and_assoc]

/-- what the last-word mask does to the result `d` of the two loops -/
theorem Bvd.finish (s : Raw 64) (h : s.Inv) (d : Array (BitVec 64)) (hsz : d.size = s.data.size)
    (hd : ∀ t, Bvd.capW s.length ≤ t → wd d t = wd s.data t) :
    ({ s with data := maskAt d s.length } : Raw 64).Inv ∧
      valAll (maskAt d s.length) = valUpTo d (Bvd.capW s.length) % 2 ^ s.length ∧
      valAll s.data = valUpTo s.data (Bvd.capW s.length) := by
  have hw : 0 < 64 := by decide
  have hcap : s.length ≤ 64 * Bvd.capW s.length := le_mul_cap s.length hw
  -- the loops leave the words above the used ones as they were, zero
  have hz : ∀ k, Bvd.capW s.length ≤ k → wd d k = 0#64 := fun k hk => (hd k hk).trans (h.wd_zero hw k hk)
  obtain ⟨m1, m2⟩ := Raw.refines_mod_of_bits hw (d := d) s.length (by rw [size_maskAt, hsz]; exact h.1)
    (fun i => bitAt_maskAt_of_used d s.length i hw hz)
  refine ⟨m1, ?_, (h.valUpTo_eq hw _ hcap).symm⟩
  rw [valUpTo_eq_mod hw, Nat.mod_mod_of_dvd _ (Nat.pow_dvd_pow 2 hcap)]
  exact (BV.mk.inj m2).2

theorem Bvd.addsubAssign_refines (sub : Bool) (s : Raw 64) (x : AnyBv) (h : s.Inv)
    (hf : ∀ n, n ≤ (Bvd.rhsWords x).1 → valF (Bvd.rhsWords x).2 n = x.abs.val % 2 ^ (64 * n))
    (hx : x.abs.val < 2 ^ (64 * (Bvd.rhsWords x).1)) :
    (Bvd.addsubAssign sub s x).Inv ∧
      (Bvd.addsubAssign sub s x).abs = (if sub then s.abs.sub x.abs else s.abs.add x.abs) ∧
      (Bvd.addsubAssign sub s x).data.size = s.data.size := by
  obtain ⟨c1, c2, c3⟩ := Bvd.addsubLoops_inv sub s x (h.cap_le_size (by decide))
  rw [Bvd.addsubAssign_eq]
  generalize Bvd.addsubLoops sub s x = r at c1 c2 c3
  obtain ⟨f1, f2, f3⟩ := Bvd.finish s h r.1 c1 c2
  refine ⟨f1, ?_, by simp only [size_maskAt, c1]⟩
  rw [Bvd.valF_padded x hf hx] at c3
  have := c3.final (L := 2 ^ s.length)
    (Nat.pow_dvd_pow 2 (le_mul_cap s.length (by decide))) (Nat.two_pow_pos _)
  dsimp only [Raw.abs]
  rw [f2, this, ← f3]
  cases sub <;> rfl

theorem Bvd.addsubAssign_add (s : Raw 64) (x : AnyBv) (h : s.Inv)
    (hf : ∀ n, n ≤ (Bvd.rhsWords x).1 → valF (Bvd.rhsWords x).2 n = x.abs.val % 2 ^ (64 * n))
    (hx : x.abs.val < 2 ^ (64 * (Bvd.rhsWords x).1)) :
    (Bvd.addsubAssign false s x).Inv ∧ (Bvd.addsubAssign false s x).abs = s.abs.add x.abs ∧
      (Bvd.addsubAssign false s x).data.size = s.data.size :=
  Bvd.addsubAssign_refines false s x h hf hx

theorem Bvd.addsubAssign_sub (s : Raw 64) (x : AnyBv) (h : s.Inv)
    (hf : ∀ n, n ≤ (Bvd.rhsWords x).1 → valF (Bvd.rhsWords x).2 n = x.abs.val % 2 ^ (64 * n))
    (hx : x.abs.val < 2 ^ (64 * (Bvd.rhsWords x).1)) :
    (Bvd.addsubAssign true s x).Inv ∧ (Bvd.addsubAssign true s x).abs = s.abs.sub x.abs ∧
      (Bvd.addsubAssign true s x).data.size = s.data.size :=
  Bvd.addsubAssign_refines true s x h hf hx

end Bva
