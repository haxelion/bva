import BvaProofs.Digits
import BvaProofs.L0Numeral
import BvaModel.Auto
/-!
`from_binary` and `from_hex` of `Bvf`, `Bvd` and `Bv`, all through the accumulate loop of `Digits.lean`.
`Parse.firstBad` / `Parse.digitsVal` mirror `Drv.firstBad` / `Drv.digitsVal` of `BvaModel/Ops.lean`.
In order: the two specification functions, the digit functions `binVal` / `hexVal`, the loop (`parse_refines`), the constructors
of `Bvf` and `Bvd`, and `Bv`, which chooses between them by the byte length of the string.
-/
namespace Bva
variable {w : Nat}

namespace Parse
/-- index (counted from `i`) of the first character that is not a digit -/
def firstBad (dig : Char → Option Nat) : List Char → Nat → Option Nat
  | [], _ => none
  | c :: cs, i => if (dig c).isNone then some i else firstBad dig cs (i + 1)

/-- value of the digit string, first character most significant -/
def digitsVal (base : Nat) (dig : Char → Option Nat) (cs : List Char) : Nat :=
  cs.foldl (fun acc c => acc * base + (dig c).getD 0) 0
end Parse
open Parse

theorem digitsVal_eq_ofDigits (base : Nat) (dig : Char → Option Nat) (cs : List Char) :
    digitsVal base dig cs = ofDigits base (cs.map fun c => (dig c).getD 0) := by
  unfold digitsVal ofDigits
  rw [List.foldl_map]

theorem firstBad_none_iff (dig : Char → Option Nat) (cs : List Char) (i : Nat) :
    firstBad dig cs i = none ↔ ∀ c, c ∈ cs → (dig c).isSome = true := by
  induction cs generalizing i with
  | nil => simp [firstBad]
  | cons c cs ih =>
    unfold firstBad
    cases hc : dig c with
    | none => simp [hc]
    | some d => simp [hc, ih]

theorem firstBad_some (dig : Char → Option Nat) (cs : List Char) (i k : Nat)
    (h : firstBad dig cs i = some k) :
    ∃ j, k = i + j ∧ j < cs.length ∧ (cs[j]?.bind dig) = none ∧ ∀ t, t < j → ∃ d, cs[t]?.bind dig = some d := by
  induction cs generalizing i with
  | nil => cases h
  | cons c cs ih =>
    unfold firstBad at h
    cases hc : dig c with
    | none =>
      rw [hc] at h
      cases h
      exact ⟨0, rfl, Nat.succ_pos _, hc, fun t ht => absurd ht (Nat.not_lt_zero t)⟩
    | some d =>
      rw [hc] at h
      obtain ⟨j, rfl, h2, h3, h4⟩ := ih (i + 1) h
      refine ⟨j + 1, Nat.add_right_comm i 1 j, Nat.succ_lt_succ h2, h3, fun t ht => ?_⟩
      cases t with
      | zero => exact ⟨d, hc⟩
      | succ t => exact h4 t (Nat.lt_of_succ_lt_succ ht)

theorem binVal_lt (c : Char) (d : Nat) (h : Bvf.binVal c = some d) : d < 2 ^ 1 := by
  unfold Bvf.binVal at h
  by_cases h0 : c = '0'
  · rw [if_pos h0] at h
    exact Option.some.inj h ▸ (by decide)
  · rw [if_neg h0] at h
    by_cases h1 : c = '1'
    · rw [if_pos h1] at h
      exact Option.some.inj h ▸ (by decide)
    · rw [if_neg h1] at h
      cases h

theorem hexVal_lt (c : Char) (d : Nat) (h : Bvf.hexVal c = some d) : d < 2 ^ 4 := by
  -- a range of codes that ends at `hi` gives the digit `n - k ≤ hi - k`
  have sub : ∀ {k : Nat} (hi : Nat), c.toNat ≤ hi → hi - k < 16 → some (c.toNat - k) = some d → d < 16 :=
    fun _ hn hk e => Option.some.inj e ▸ Nat.lt_of_le_of_lt (Nat.sub_le_sub_right hn _) hk
  unfold Bvf.hexVal at h
  by_cases h1 : 48 ≤ c.toNat ∧ c.toNat ≤ 57
  · rw [if_pos h1] at h
    exact sub 57 h1.2 (by decide) h
  · rw [if_neg h1] at h
    by_cases h2 : 97 ≤ c.toNat ∧ c.toNat ≤ 102
    · rw [if_pos h2] at h
      exact sub 102 h2.2 (by decide) h
    · rw [if_neg h2] at h
      by_cases h3 : 65 ≤ c.toNat ∧ c.toNat ≤ 70
      · rw [if_pos h3] at h
        exact sub 70 h3.2 (by decide) h
      · rw [if_neg h3] at h
        cases h

theorem prs_hexVal_eq (c : Char) :
    Bvf.hexVal c =
      if '0' ≤ c ∧ c ≤ '9' then some (c.toNat - '0'.toNat)
      else if 'a' ≤ c ∧ c ≤ 'f' then some (c.toNat - 'a'.toNat + 10)
      else if 'A' ≤ c ∧ c ≤ 'F' then some (c.toNat - 'A'.toNat + 10)
      else none := by
  have hle : ∀ a b : Char, a ≤ b ↔ a.toNat ≤ b.toNat := fun a b => by
    rw [Char.le_def, UInt32.le_iff_toNat_le]; rfl
  have hc : ∀ a b : Char, (a.toNat ≤ c.toNat ∧ c.toNat ≤ b.toNat) = (a ≤ c ∧ c ≤ b) := fun a b =>
    propext (and_congr (hle a c) (hle c b)).symm
  -- the three tests are the same; `n - 87 = n - 97 + 10` and `n - 55 = n - 65 + 10` under them
  exact ite_congr (hc '0' '9') (fun _ => rfl) fun _ =>
    ite_congr (hc 'a' 'f')
      (fun h => congrArg some ((Nat.add_sub_add_right _ 10 87).symm.trans (Nat.sub_add_comm ((hle 'a' c).mp h.1)))) fun _ =>
    ite_congr (hc 'A' 'F')
      (fun h => congrArg some ((Nat.add_sub_add_right _ 10 55).symm.trans (Nat.sub_add_comm ((hle 'A' c).mp h.1)))) fun _ =>
    rfl

theorem hexVal_digitChar (upper : Bool) (d : Nat) (hd : d < 16) : Bvf.hexVal (BV.digitChar upper d) = some d :=
  (by decide : ∀ (u : Bool) (d : Fin 16), Bvf.hexVal (BV.digitChar u d.val) = some d.val) upper ⟨d, hd⟩

theorem binVal_digitChar (d : Nat) (hd : d < 2) : Bvf.binVal (BV.digitChar false d) = some d :=
  (by decide : ∀ d : Fin 2, Bvf.binVal (BV.digitChar false d.val) = some d.val) ⟨d, hd⟩

theorem digitsVal_numeral (base : Nat) (upper : Bool) (dig : Char → Option Nat) (hb : 2 ≤ base) (hb' : base ≤ 16)
    (hdig : ∀ d, d < base → dig (BV.digitChar upper d) = some d) (v : Nat) :
    firstBad dig (BV.numeral base upper v) 0 = none ∧ digitsVal base dig (BV.numeral base upper v) = v := by
  have hv := BV.numeral_valid base upper hb v
  refine ⟨(firstBad_none_iff ..).mpr fun c hc => ?_, ?_⟩
  · obtain ⟨d, hd, rfl⟩ := hv c hc
    rw [hdig d hd]; rfl
  · refine .trans (foldl_congr_of_mem _ _ _ (fun acc c hc => ?_) 0) (BV.numeral_digitsVal base upper hb hb' v)
    obtain ⟨d, hd, rfl⟩ := hv c hc
    rw [hdig d hd, fmt_digitVal_digitChar upper d (Nat.lt_of_lt_of_le hd hb')]; rfl

/-- `j` sends a character with `r` characters after it to word `r / dpw`: what every index computation of
`from_binary` / `from_hex` amounts to -/
theorem parseLoop_eq (sh dpw : Nat) (dig : Char → Option Nat) (j : Nat → Nat) :
    ∀ (cs : List Char) (i : Nat) (a : Array (BitVec w)),
      (∀ t r, r + t + 1 = cs.length → j (i + t) = r / dpw) →
      Bvf.parseLoop sh dig j cs i a = match firstBad dig cs i with
        | some k => .error k
        | none => .ok (accum sh dpw (cs.map fun c => (dig c).getD 0) a) := by
  intro cs
  induction cs with
  | nil => intro _ _ _; rfl
  | cons c cs ih =>
    intro i a hj
    unfold Bvf.parseLoop firstBad
    cases hc : dig c with
    | none => rfl
    | some d =>
      simp only [Option.isNone_some, Bool.false_eq_true, if_false, List.map_cons, accum, List.length_map, hc,
        Option.getD_some]
      rw [← hj 0 cs.length rfl]
      refine ih (i + 1) _ (fun t r h => ?_)
      rw [Nat.add_assoc, Nat.add_comm 1 t]
      exact hj (t + 1) r (congrArg (· + 1) h)

theorem parse_refines {sh dpw base : Nat} (hb : base = 2 ^ sh) (hsh : 0 < sh) (hdpw : 0 < dpw) (hw : w = sh * dpw)
    {dig : Char → Option Nat} (hd : ∀ c d, dig c = some d → d < 2 ^ sh) (j : Nat → Nat) (cs : List Char)
    (N len : Nat) (hj : ∀ t r, r + t + 1 = cs.length → j t = r / dpw) (hN : cs.length ≤ N * dpw)
    (hl : len = sh * cs.length) :
    (∀ k, firstBad dig cs 0 = some k → Bvf.parseLoop sh dig j cs 0 (Array.replicate N 0#w) = .error k) ∧
    (firstBad dig cs 0 = none → ∃ a, Bvf.parseLoop sh dig j cs 0 (Array.replicate N 0#w) = .ok a ∧
      (⟨a, len⟩ : Raw w).Inv ∧ (⟨a, len⟩ : Raw w).abs = ⟨len, digitsVal base dig cs⟩ ∧ a.size = N) := by
  have e := parseLoop_eq sh dpw dig j cs 0 (Array.replicate N 0#w) (fun t => (Nat.zero_add t).symm ▸ hj t)
  refine ⟨fun k hk => by rw [e, hk], fun hn => ⟨_, by rw [e, hn], ?_⟩⟩
  have hds : ∀ d ∈ cs.map (fun c => (dig c).getD 0), d < 2 ^ sh := by
    intro d hd'
    obtain ⟨c, _, rfl⟩ := List.mem_map.mp hd'
    cases h : dig c with
    | none => exact Nat.two_pow_pos sh
    | some d => exact hd c d h
  have := accum_refines hsh hdpw hw _ hds N (by rw [List.length_map]; exact hN) len (by rw [List.length_map]; exact hl)
  rw [digitsVal_eq_ofDigits, hb]
  exact ⟨this.1, this.2, by rw [size_accum, Array.size_replicate]⟩

theorem Bvf.fromBinary_spec (hw : 0 < w) (N : Nat) (cs : List Char) :
    (N * w < cs.length → Bvf.fromBinary w N cs = .err "NotEnoughCapacity") ∧
    (∀ i, cs.length ≤ N * w → firstBad Bvf.binVal cs 0 = some i →
      Bvf.fromBinary w N cs = .err s!"InvalidFormat({i})") ∧
    (cs.length ≤ N * w → firstBad Bvf.binVal cs 0 = none →
      ∃ r, Bvf.fromBinary w N cs = .ok r ∧ r.Inv ∧ r.abs = ⟨cs.length, digitsVal 2 Bvf.binVal cs⟩ ∧
        r.data.size = N) := by
  simp only [Bvf.fromBinary]
  have p := fun h => parse_refines (w := w) rfl Nat.one_pos hw (Nat.one_mul w).symm binVal_lt
    (fun i => (cs.length - 1 - i) / w) cs N cs.length (fun _ _ h => pred_sub_div h w) h (Nat.one_mul _).symm
  refine ⟨fun h => if_pos h, fun i h hb => ?_, fun h hb => ?_⟩
  · rw [if_neg (Nat.not_lt.mpr h), (p h).1 i hb]
  · obtain ⟨a, e, r⟩ := (p h).2 hb
    exact ⟨_, by rw [if_neg (Nat.not_lt.mpr h), e], r⟩

theorem Bvf.fromHex_spec (hw : 0 < w) (h4 : 4 ∣ w) (N : Nat) (cs : List Char) :
    (N * w < cs.length * 4 → Bvf.fromHex w N cs = .err "NotEnoughCapacity") ∧
    (∀ i, cs.length * 4 ≤ N * w → firstBad Bvf.hexVal cs 0 = some i →
      Bvf.fromHex w N cs = .err s!"InvalidFormat({i})") ∧
    (cs.length * 4 ≤ N * w → firstBad Bvf.hexVal cs 0 = none →
      ∃ r, Bvf.fromHex w N cs = .ok r ∧ r.Inv ∧ r.abs = ⟨cs.length * 4, digitsVal 16 Bvf.hexVal cs⟩ ∧
        r.data.size = N) := by
  simp only [Bvf.fromHex]
  have hw4 : w = 4 * (w / 4) := (Nat.mul_div_cancel' h4).symm
  have p := fun (h : cs.length * 4 ≤ N * w) =>
    have hN : cs.length ≤ N * (w / 4) :=
      Nat.le_of_mul_le_mul_right (by rw [Nat.mul_assoc, Nat.mul_comm (w / 4), ← hw4]; exact h) (by decide : 0 < 4)
    parse_refines (w := w) (base := 16) rfl (by decide) (Nat.div_pos (Nat.le_of_dvd hw h4) (by decide)) hw4
      hexVal_lt (fun i => (cs.length - 1 - i) / (w / 4)) cs N (cs.length * 4) (fun _ _ h => pred_sub_div h _) hN
      (Nat.mul_comm _ _)
  refine ⟨fun h => if_pos h, fun i h hb => ?_, fun h hb => ?_⟩
  · rw [if_neg (Nat.not_lt.mpr h), (p h).1 i hb]
  · obtain ⟨a, e, r⟩ := (p h).2 hb
    exact ⟨_, by rw [if_neg (Nat.not_lt.mpr h), e], r⟩

theorem Bvd.fromBinary_spec (cs : List Char) :
    (∀ i, firstBad Bvf.binVal cs 0 = some i → Bvd.fromBinary cs = .err s!"InvalidFormat({i})") ∧
    (firstBad Bvf.binVal cs 0 = none →
      ∃ r, Bvd.fromBinary cs = .ok r ∧ r.Inv ∧ r.abs = ⟨cs.length, digitsVal 2 Bvf.binVal cs⟩ ∧
        r.data.size = Bvd.capW cs.length) := by
  simp only [Bvd.fromBinary]
  have p := parse_refines (w := 64) (sh := 1) (dpw := 64) rfl (by decide) (by decide) rfl binVal_lt
    (fun i => Bvd.capW cs.length - 1 - (i + (64 - cs.length % 64) % 64) / 64) cs (Bvd.capW cs.length) cs.length
    (fun _ _ h => rev_idx (by decide) h) (le_cap_mul _ (by decide)) (Nat.one_mul _).symm
  refine ⟨fun i hb => by rw [p.1 i hb], fun hb => ?_⟩
  obtain ⟨a, e, r⟩ := p.2 hb
  exact ⟨_, by rw [e], r⟩

theorem Bvd.fromHex_spec (cs : List Char) :
    (∀ i, firstBad Bvf.hexVal cs 0 = some i → Bvd.fromHex cs = .err s!"InvalidFormat({i})") ∧
    (firstBad Bvf.hexVal cs 0 = none →
      ∃ r, Bvd.fromHex cs = .ok r ∧ r.Inv ∧ r.abs = ⟨cs.length * 4, digitsVal 16 Bvf.hexVal cs⟩ ∧
        r.data.size = Bvd.capW (cs.length * 4)) := by
  simp only [Bvd.fromHex]
  -- the model counts bytes, then words; the statement counts the words of `4 * len` bits: both are `⌈len / 16⌉`
  have en : ((cs.length + 1) / 2 + 7) / 8 = (cs.length + 16 - 1) / 16 := cap_cap 8 2 cs.length (by decide) (by decide)
  have ec : Bvd.capW (cs.length * 4) = (cs.length + 16 - 1) / 16 := cap_mul_right 16 4 cs.length (by decide) (by decide)
  rw [en, ec]
  have p := parse_refines (w := 64) (sh := 4) (dpw := 16) (base := 16) rfl (by decide) (by decide) rfl hexVal_lt
    (fun i => (cs.length + 16 - 1) / 16 - 1 - (i + (16 - cs.length % 16) % 16) / 16) cs ((cs.length + 16 - 1) / 16)
    (cs.length * 4) (fun _ _ h => rev_idx (by decide) h) (le_cap_mul (w := 16) _ (by decide)) (Nat.mul_comm _ _)
  refine ⟨fun i hb => by rw [p.1 i hb], fun hb => ?_⟩
  obtain ⟨a, e, r⟩ := p.2 hb
  exact ⟨_, by rw [e], r⟩

theorem add_length_le_foldl_utf8Size (cs : List Char) (a : Nat) :
    a + cs.length ≤ cs.foldl (fun n c => n + c.utf8Size) a := by
  induction cs generalizing a with
  | nil => exact Nat.le_refl a
  | cons c cs ih =>
    rw [List.foldl_cons, List.length_cons, Nat.add_comm cs.length 1, ← Nat.add_assoc]
    exact Nat.le_trans (Nat.add_le_add_right (Nat.add_le_add_left (Char.utf8Size_pos c) a) _) (ih _)

theorem length_le_utf8Len (cs : List Char) : cs.length ≤ Bv.utf8Len cs :=
  Nat.zero_add cs.length ▸ add_length_le_foldl_utf8Size cs 0

theorem invalidFormat_ne_notEnoughCapacity (i : Nat) : s!"InvalidFormat({i})" ≠ "NotEnoughCapacity" := by
  intro h
  -- the first characters differ
  have := congrArg (fun s : String => s.toList.head?) h
  simp [toString] at this

/-- the `Dynamic` counterpart of `Bv.liftRes` -/
def Bv.liftDynamic : Res (Raw 64) → Res Bv
  | .ok b => .ok (.dynamic b)
  | .err e => .err e
  | .panic => .panic

/-- the text constructors of `Bv`: the `Bvf<u64,2>` result `F` when `c` holds, else the `Bvd` result `D`; `c` is
chosen so that `F` has no capacity error -/
theorem Bv.liftChoice_spec {c : Prop} [Decidable c] {fb : Option Nat} {F D : Res (Raw 64)} {A : BV} {P : Raw 64 → Prop}
    {R : Res Bv} (hR : R = if c then Bv.liftRes F else Bv.liftDynamic D)
    (hF : c → (∀ i, fb = some i → F = .err s!"InvalidFormat({i})") ∧
      (fb = none → ∃ r, F = .ok r ∧ r.Inv ∧ r.abs = A ∧ r.data.size = 2))
    (hD : (∀ i, fb = some i → D = .err s!"InvalidFormat({i})") ∧ (fb = none → ∃ r, D = .ok r ∧ r.Inv ∧ r.abs = A ∧ P r)) :
    R ≠ .err "NotEnoughCapacity" ∧ (∀ i, fb = some i → R = .err s!"InvalidFormat({i})") ∧
    (fb = none → ∃ r, R = .ok r ∧ r.invB = true ∧ r.abs = A ∧ r.isFixed = decide c) := by
  have hw : 0 < 64 := by decide
  subst hR
  cases fb with
  | some k =>
    -- a bad character: either arm reports it
    have e : (if c then Bv.liftRes F else Bv.liftDynamic D) = .err s!"InvalidFormat({k})" := by
      by_cases hc : c
      · rw [if_pos hc, (hF hc).1 k rfl]; rfl
      · rw [if_neg hc, hD.1 k rfl]; rfl
    rw [e]
    exact ⟨fun h => invalidFormat_ne_notEnoughCapacity k (Res.err.inj h), fun i hi => (by cases hi; rfl), nofun⟩
  | none =>
    by_cases hc : c
    · obtain ⟨r, e, hi, ha, hs⟩ := (hF hc).2 rfl
      rw [if_pos hc, decide_eq_true hc, e]
      refine ⟨nofun, nofun, fun _ => ⟨.fixed r, rfl, ?_, ha, rfl⟩⟩
      simp only [Bv.invB, Bool.and_eq_true, beq_iff_eq]
      exact ⟨(Raw.invB_iff r hw).mpr hi, hs⟩
    · obtain ⟨r, e, hi, ha, _⟩ := hD.2 rfl
      rw [if_neg hc, decide_eq_false hc, e]
      exact ⟨nofun, nofun, fun _ => ⟨.dynamic r, rfl, (Raw.invB_iff r hw).mpr hi, ha, rfl⟩⟩

/-- the arm is chosen by the UTF-8 byte length (`str::len`), which is at least the number of characters: the `Bvf` arm
never lacks capacity -/
theorem Bv.fromBinary_spec (cs : List Char) :
    Bv.fromBinary cs ≠ .err "NotEnoughCapacity" ∧
    (∀ i, firstBad Bvf.binVal cs 0 = some i → Bv.fromBinary cs = .err s!"InvalidFormat({i})") ∧
    (firstBad Bvf.binVal cs 0 = none →
      ∃ r, Bv.fromBinary cs = .ok r ∧ r.invB = true ∧ r.abs = ⟨cs.length, digitsVal 2 Bvf.binVal cs⟩ ∧
        r.isFixed = decide (Bv.utf8Len cs ≤ 128)) := by
  have hl := length_le_utf8Len cs
  have s := Bvf.fromBinary_spec (w := 64) (by decide) 2 cs
  exact Bv.liftChoice_spec (c := Bv.utf8Len cs ≤ 128) rfl
    (fun hc => ⟨fun i => s.2.1 i (Nat.le_trans hl hc), s.2.2 (Nat.le_trans hl hc)⟩) (Bvd.fromBinary_spec cs)

theorem Bv.fromHex_spec (cs : List Char) :
    Bv.fromHex cs ≠ .err "NotEnoughCapacity" ∧
    (∀ i, firstBad Bvf.hexVal cs 0 = some i → Bv.fromHex cs = .err s!"InvalidFormat({i})") ∧
    (firstBad Bvf.hexVal cs 0 = none →
      ∃ r, Bv.fromHex cs = .ok r ∧ r.invB = true ∧ r.abs = ⟨cs.length * 4, digitsVal 16 Bvf.hexVal cs⟩ ∧
        r.isFixed = decide (Bv.utf8Len cs * 4 ≤ 128)) := by
  have hl := Nat.mul_le_mul_right 4 (length_le_utf8Len cs)
  have s := Bvf.fromHex_spec (w := 64) (by decide) (by decide) 2 cs
  exact Bv.liftChoice_spec (c := Bv.utf8Len cs * 4 ≤ 128) rfl
    (fun hc => ⟨fun i => s.2.1 i (Nat.le_trans hl hc), s.2.2 (Nat.le_trans hl hc)⟩) (Bvd.fromHex_spec cs)

end Bva
