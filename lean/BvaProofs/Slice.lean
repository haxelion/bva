import BvaProofs.Base
/-!
# Slicing

Both `copy_range` bodies write the source's words re-aligned at bit `st` (`slideWord`, `bitAt_slideWords`), then mask the
last word.
-/
namespace Bva
variable {w : Nat}

/-- the word reads `self.data[i + offset]` of both `copy_range` loops are in bounds (no Rust panic) -/
theorem copyRange_read_inbounds (s : Raw w) (st en i : Nat) (hw : 0 < w) (hc : s.length ≤ s.data.size * w)
    (hen : en ≤ s.length) (hi : i < capFromBitLen w (en - st)) : i + st / w < s.data.size := by
  have h1 : i * w < en - st :=
    Nat.lt_of_not_le fun c => Nat.not_le.mpr hi ((cap_le_iff _ _ hw).mpr c)
  have hse : st ≤ en := Nat.le_of_lt (Nat.lt_of_sub_pos (Nat.zero_lt_of_lt h1))
  refine Nat.lt_of_mul_lt_mul_right (a := w) ?_
  rw [Nat.add_mul]
  calc i * w + st / w * w < en - st + st := Nat.add_lt_add_of_lt_of_le h1 (Nat.div_mul_le_self st w)
    _ = en := Nat.sub_add_cancel hse
    _ ≤ s.data.size * w := Nat.le_trans hen hc

/-- word `i` of the bits of `ws` from bit `st` on, as both `copy_range` loops assemble it -/
abbrev slideWord (ws : Array (BitVec w)) (st i : Nat) : BitVec w :=
  (wd ws (i + st / w) >>> (st % w)) ||| (wd ws (i + st / w + 1) <<< (w - st % w))

theorem getLsbD_slideWord (ws : Array (BitVec w)) (st k j : Nat) (hw : 0 < w) :
    (slideWord ws st k).getLsbD j = (decide (j < w) && bitAt ws (st + (k * w + j))) := by
  rw [slideWord, getLsbD_slide (wd ws) (bitAt ws) (wd_chunks ws) _ _ _ (Nat.le_of_lt (Nat.mod_lt st hw)), Nat.add_mul,
    Nat.add_assoc (k * w), Nat.div_add_mod', Nat.add_right_comm, Nat.add_comm (k * w + j)]

theorem bitAt_slideWords (A ws : Array (BitVec w)) (st n i : Nat) (hw : 0 < w)
    (hA : ∀ k, wd A k = if k < n then slideWord ws st k else 0#w) :
    bitAt A i = (decide (i < n * w) && bitAt ws (st + i)) := by
  rw [bitAt_eq, hA]
  by_cases h : i / w < n
  · rw [if_pos h, getLsbD_slideWord _ _ _ _ hw, decide_eq_true (Nat.mod_lt i hw),
      decide_eq_true ((Nat.div_lt_iff_lt_mul hw).mp h), Nat.div_add_mod']
  · rw [if_neg h, decide_eq_false (fun c => h ((Nat.div_lt_iff_lt_mul hw).mpr c)), Bool.false_and]
    exact BitVec.getLsbD_zero

theorem copyRange_refines_of_bits (s r : Raw w) (st en : Nat) (hw : 0 < w)
    (hl : r.length = en - st) (hc : en - st ≤ r.data.size * w)
    (hb : ∀ i, bitAt r.data i = (decide (i < en - st) && bitAt s.data (st + i))) :
    r.Inv ∧ r.abs = s.abs.copyRange st en :=
  Raw.refines_of_bits r _ hw (BV.lv_copyRange_wf ..) hl (hl ▸ hc)
    (fun i => by rw [hb, BV.copyRange_bit, Raw.abs_bit _ _ hw])

namespace Bvf

/-- the aligned loop of `copy_range` is the general one at `slide = 0` -/
theorem copyWords_eq (ws z : Array (BitVec w)) (st n : Nat) :
    (if st % w > 0 then forRange 0 n (fun i a => a.setIfInBounds i (slideWord ws st i)) z
      else forRange 0 n (fun i a => a.setIfInBounds i (wd ws (i + st / w))) z) =
      forRange 0 n (fun i a => a.setIfInBounds i (slideWord ws st i)) z := by
  split
  · rfl
  · rename_i h
    have h0 : st % w = 0 := Nat.eq_zero_of_not_pos h
    simp only [slideWord, h0, BitVec.ushiftRight_zero, Nat.sub_zero, BitVec.shiftLeft_eq_zero (Nat.le_refl w),
      BitVec.or_zero]

/-- the storage written by the loop of `copy_range`, before the last-word mask -/
theorem copyWords_bits (ws : Array (BitVec w)) (st n j : Nat) (hw : 0 < w) (hn : n ≤ ws.size) :
    bitAt (forRange 0 n (fun i a => a.setIfInBounds i (slideWord ws st i)) (Array.replicate ws.size 0#w)) j =
      (decide (j < n * w) && bitAt ws (st + j)) := by
  refine bitAt_slideWords _ ws st n j hw fun k => ?_
  rw [wd_forRange_set, Array.size_replicate, wd_replicate]
  by_cases hk : k < n
  · rw [if_pos ⟨hk, Nat.lt_of_lt_of_le hk hn⟩, if_pos hk]
  · rw [if_neg (fun c => hk c.1), if_neg hk, ite_self]

theorem copyRange_length (s : Raw w) (st en : Nat) (hse : st ≤ en) :
    (copyRange s st en).length = en - st := by
  unfold copyRange
  simp only [Nat.min_eq_left hse]

theorem copyRange_size (s : Raw w) (st en : Nat) :
    (copyRange s st en).data.size = s.data.size := by
  unfold copyRange
  rw [Array.size_modify, copyWords_eq, size_forRange_set, Array.size_replicate]

theorem copyRange_bits (s : Raw w) (st en i : Nat) (hw : 0 < w) (h : s.Inv)
    (hse : st ≤ en) (hen : en ≤ s.length) :
    bitAt (copyRange s st en).data i = (decide (i < en - st) && bitAt s.data (st + i)) := by
  have hn : capFromBitLen w (en - st) ≤ s.data.size :=
    (cap_le_iff _ _ hw).mpr (Nat.le_trans (Nat.sub_le _ _) (Nat.le_trans hen h.1))
  have hcap := le_cap_mul (en - st) hw
  unfold copyRange
  simp only [Nat.min_eq_left hse]
  rw [copyWords_eq]
  have hA := fun j => copyWords_bits s.data st _ j hw hn
  refine bitAt_masked (bitAt_modify_lastBits _ _ _ _ hw (fun _ => rfl) fun j hj => ?_) fun hi => ?_
  · rw [hA, decide_eq_false (Nat.not_lt.mpr hj), Bool.false_and]
  · rw [hA, decide_eq_true (Nat.lt_of_lt_of_le hi hcap), Bool.true_and]

theorem copyRange_refines (s : Raw w) (st en : Nat) (hw : 0 < w) (h : s.Inv)
    (hse : st ≤ en) (hen : en ≤ s.length) :
    (copyRange s st en).Inv ∧ (copyRange s st en).abs = s.abs.copyRange st en :=
  copyRange_refines_of_bits s _ st en hw (copyRange_length s st en hse)
    (by rw [copyRange_size]; exact Nat.le_trans (Nat.sub_le _ _) (Nat.le_trans hen h.1))
    (fun i => copyRange_bits s st en i hw h hse hen)

end Bvf

namespace Bvd

theorem copyRange_length (s : Raw 64) (st en : Nat) (hse : st ≤ en) :
    (copyRange s st en).length = en - st := by
  unfold copyRange
  simp only [Nat.min_eq_left hse]

theorem copyRange_size (s : Raw 64) (st en : Nat) (hse : st ≤ en) :
    (copyRange s st en).data.size = capFromBitLen 64 (en - st) := by
  unfold copyRange maskLast
  simp only [Array.size_modify, Array.size_ofFn, Nat.min_eq_left hse]

theorem copyRange_bits (s : Raw 64) (st en i : Nat) (hse : st ≤ en) :
    bitAt (copyRange s st en).data i = (decide (i < en - st) && bitAt s.data (st + i)) := by
  have hw : 0 < 64 := by decide
  have hcap := le_cap_mul (en - min st en) hw
  -- the body computes the length as `en - min st en`
  rw [← show en - min st en = en - st by rw [Nat.min_eq_left hse]]
  unfold copyRange
  dsimp only
  refine bitAt_masked (bitAt_maskLast _ _ _ (Array.size_ofFn ..)) fun hi => ?_
  rw [bitAt_slideWords _ s.data st (capFromBitLen 64 (en - min st en)) i hw (fun k => by rw [wd_ofFn]; split <;> rfl),
    decide_eq_true (Nat.lt_of_lt_of_le hi hcap), Bool.true_and]

theorem copyRange_refines (s : Raw 64) (st en : Nat) (hse : st ≤ en) :
    (copyRange s st en).Inv ∧ (copyRange s st en).abs = s.abs.copyRange st en :=
  copyRange_refines_of_bits s _ st en (by decide) (copyRange_length s st en hse)
    (by rw [copyRange_size s st en hse]; exact le_cap_mul _ (by decide)) (fun i => copyRange_bits s st en i hse)

end Bvd

/-- the bodies of `first` / `last` (`if len > 0 { Some(get(..)) } else { None }`, as in `Step.lean`) -/
theorem Raw.first_refines (s : Raw w) (hw : 0 < w) :
    (if s.length > 0 then some (s.get 0) else none) = s.abs.first := by
  unfold BV.first
  rw [Raw.abs_len, Raw.abs_bit _ _ hw, Raw.get_eq_bitAt]
  by_cases h : s.length > 0
  · rw [if_pos h, if_neg (Nat.ne_of_gt h)]
  · rw [if_neg h, if_pos (Nat.eq_zero_of_not_pos h)]

theorem Raw.last_refines (s : Raw w) (hw : 0 < w) :
    (if s.length > 0 then some (s.get (s.length - 1)) else none) = s.abs.last := by
  unfold BV.last
  rw [Raw.abs_len, Raw.abs_bit _ _ hw, Raw.get_eq_bitAt]
  by_cases h : s.length > 0
  · rw [if_pos h, if_neg (Nat.ne_of_gt h)]
  · rw [if_neg h, if_pos (Nat.eq_zero_of_not_pos h)]

end Bva
