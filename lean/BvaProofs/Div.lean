import BvaProofs.Carry
import BvaProofs.Shift
import BvaProofs.Edit
import BvaProofs.Slice
import BvaProofs.Conv
/-!
`divLoopNat` is the shift–subtract loop on numbers; the model's generic `divLoop` refines it over an abstract
interface (`divLoop_refines`), and started as every `div_rem` starts it, it divides (`divLoop_main`).
-/
namespace Bva

/-- The loop `for i in (0..shift+1).rev()` of `div_rem` (the model's `divLoop`) on numbers: when the shifted divisor `d` fits into
the remainder it is subtracted and the quotient gets `+ 2^i`; then `d` is halved. -/
def divLoopNat : Nat → Nat → Nat → Nat → Nat × Nat
  | 0, q, r, _ => (q, r)
  | i + 1, q, r, d =>
    let (q, r) := if d ≤ r then (q + 2 ^ i, r - d) else (q, r)
    divLoopNat i q r (d / 2)

theorem divLoopNat_zero (q r d : Nat) : divLoopNat 0 q r d = (q, r) := rfl

theorem divLoopNat_succ (i q r d : Nat) :
    divLoopNat (i + 1) q r d =
      if d ≤ r then divLoopNat i (q + 2 ^ i) (r - d) (d / 2) else divLoopNat i q r (d / 2) := by
  by_cases h : d ≤ r <;> simp [divLoopNat, h]

/-- the invariant: with `i` steps left `r < b·2^i` and the divisor is `b·2^(i-1)`, written `b·2^i / 2` so that `i = 0`
(where the divisor is not looked at) is no special case -/
theorem divLoopNat_gen (b : Nat) (hb : 0 < b) :
    ∀ (i q r : Nat), r < b * 2 ^ i → divLoopNat i q r (b * 2 ^ i / 2) = (q + r / b, r % b) := by
  intro i
  induction i with
  | zero =>
    intro q r hr
    rw [Nat.pow_zero, Nat.mul_one] at hr
    rw [divLoopNat_zero, Nat.div_eq_of_lt hr, Nat.mod_eq_of_lt hr, Nat.add_zero]
  | succ i ih =>
    intro q r hr
    rw [Nat.pow_succ, ← Nat.mul_assoc, Nat.mul_two] at hr
    rw [divLoopNat_succ, Nat.pow_succ, ← Nat.mul_assoc, Nat.mul_div_cancel _ (by decide : 0 < 2)]
    by_cases hle : b * 2 ^ i ≤ r
    · -- `r = (r - b·2^i) + b·2^i`: the quotient gains `2^i`, the remainder stays
      have e := Nat.sub_add_cancel hle
      rw [if_pos hle, ih _ _ (Nat.sub_lt_left_of_lt_add hle hr), Nat.add_assoc, Nat.add_comm (2 ^ i),
        ← Nat.add_mul_div_left _ _ hb, ← Nat.add_mul_mod_self_left (r - b * 2 ^ i) b (2 ^ i), e]
    · rw [if_neg hle]
      exact ih q r (Nat.lt_of_not_le hle)

theorem divLoopNat_spec (a b d shift : Nat) (hb : b ≠ 0) (hd : d = b * 2 ^ shift)
    (ha : a < b * 2 ^ (shift + 1)) :
    divLoopNat (shift + 1) 0 a d = (a / b, a % b) := by
  have := divLoopNat_gen b (Nat.pos_of_ne_zero hb) (shift + 1) 0 a ha
  rwa [Nat.pow_succ, ← Nat.mul_assoc, Nat.mul_div_cancel _ (by decide : 0 < 2), ← hd, Nat.zero_add] at this

theorem divLoop_zero {α : Type} (ge : α → α → Bool) (sub : α → α → α) (setOne : α → Nat → α)
    (shr1 : α → α) (q r d : α) : divLoop ge sub setOne shr1 0 q r d = (q, r) := rfl

theorem divLoop_succ {α : Type} (ge : α → α → Bool) (sub : α → α → α) (setOne : α → Nat → α)
    (shr1 : α → α) (i : Nat) (q r d : α) :
    divLoop ge sub setOne shr1 (i + 1) q r d =
      if ge r d = true then divLoop ge sub setOne shr1 i (setOne q i) (sub r d) (shr1 d)
      else divLoop ge sub setOne shr1 i q r (shr1 d) := by
  by_cases h : ge r d = true <;> simp [divLoop, h]

/-! The quotient invariant of `divLoop_refines` is `val q % 2 ^ n = 0` with `n` steps left.  The three lemmas carry it through a step
`n = i + 1`: bit `i` is still clear when the step sets it, and the invariant holds for `i` whether or not `2 ^ i` is added. -/

theorem mod_two_pow_of_mod_succ (v i : Nat) (h : v % 2 ^ (i + 1) = 0) : v % 2 ^ i = 0 :=
  Nat.mod_eq_zero_of_dvd (Nat.dvd_trans (Nat.pow_dvd_pow 2 (Nat.le_succ i)) (Nat.dvd_of_mod_eq_zero h))

theorem testBit_of_mod_two_pow_succ (v i : Nat) (h : v % 2 ^ (i + 1) = 0) : v.testBit i = false := by
  have := Nat.testBit_mod_two_pow v (i + 1) i
  rw [h, Nat.zero_testBit, decide_eq_true (Nat.lt_succ_self i), Bool.true_and] at this
  exact this.symm

theorem add_two_pow_mod_two_pow (v i : Nat) (h : v % 2 ^ (i + 1) = 0) : (v + 2 ^ i) % 2 ^ i = 0 := by
  rw [Nat.add_mod_right]; exact mod_two_pow_of_mod_succ v i h

/-- `Iq`, `Ir`, `Id` are the storage invariants of quotient, remainder and divisor; `val` the
abstraction to `Nat`.  `setOne q i` is only ever used with `i < bound` on a value whose bit `i` is clear. -/
theorem divLoop_refines {α : Type} (ge : α → α → Bool) (sub : α → α → α) (setOne : α → Nat → α)
    (shr1 : α → α) (Iq Ir Id : α → Prop) (val : α → Nat) (bound : Nat)
    (hge : ∀ r d, Ir r → Id d → ge r d = decide (val d ≤ val r))
    (hsub : ∀ r d, Ir r → Id d → val d ≤ val r → Ir (sub r d) ∧ val (sub r d) = val r - val d)
    (hset : ∀ q i, Iq q → i < bound → (val q).testBit i = false →
      Iq (setOne q i) ∧ val (setOne q i) = val q + 2 ^ i)
    (hshr : ∀ d, Id d → Id (shr1 d) ∧ val (shr1 d) = val d / 2) :
    ∀ (n : Nat) (q r d : α), n ≤ bound → Iq q → Ir r → Id d → val q % 2 ^ n = 0 →
      Iq (divLoop ge sub setOne shr1 n q r d).1 ∧ Ir (divLoop ge sub setOne shr1 n q r d).2 ∧
      (val (divLoop ge sub setOne shr1 n q r d).1, val (divLoop ge sub setOne shr1 n q r d).2) =
        divLoopNat n (val q) (val r) (val d) := by
  intro n
  induction n with
  | zero =>
    intro q r d _ hq hr _ _
    rw [divLoop_zero, divLoopNat_zero]
    exact ⟨hq, hr, rfl⟩
  | succ i ih =>
    intro q r d hn hq hr hd hm
    rw [divLoop_succ, divLoopNat_succ, hge r d hr hd]
    obtain ⟨hd1, hd2⟩ := hshr d hd
    by_cases hle : val d ≤ val r
    · rw [if_pos (decide_eq_true hle), if_pos hle]
      obtain ⟨hs1, hs2⟩ := hsub r d hr hd hle
      obtain ⟨hq1, hq2⟩ := hset q i hq hn (testBit_of_mod_two_pow_succ _ _ hm)
      have ih := ih (setOne q i) (sub r d) (shr1 d) (Nat.le_of_succ_le hn) hq1 hs1 hd1
        (by rw [hq2]; exact add_two_pow_mod_two_pow _ _ hm)
      rw [hq2, hs2, hd2] at ih
      exact ih
    · rw [if_neg (mt of_decide_eq_true hle), if_neg hle]
      have ih := ih q r (shr1 d) (Nat.le_of_succ_le hn) hq hr hd1 (mod_two_pow_of_mod_succ _ _ hm)
      rw [hd2] at ih
      exact ih

theorem BV.lt_mul_two_pow_natBits_sub_succ (a b : Nat) (hb : b ≠ 0) (h : BV.natBits b ≤ BV.natBits a) :
    a < b * 2 ^ (BV.natBits a - BV.natBits b + 1) := by
  have hpos := BV.natBits_pos b hb
  calc a < 2 ^ BV.natBits a := BV.lt_two_pow_natBits a
    _ = 2 ^ (BV.natBits b - 1) * 2 ^ (BV.natBits a - BV.natBits b + 1) := by
      rw [← Nat.pow_add, ← Nat.add_assoc, Nat.add_right_comm, Nat.sub_add_cancel hpos, Nat.add_sub_cancel' h]
    _ ≤ _ := Nat.mul_le_mul_right _ (BV.two_pow_le_of_lt_natBits b _ (Nat.sub_lt hpos Nat.one_pos))

theorem BV.mul_two_pow_natBits_sub_lt (a b : Nat) (h : BV.natBits b ≤ BV.natBits a) :
    b * 2 ^ (BV.natBits a - BV.natBits b) < 2 ^ BV.natBits a :=
  calc _ < 2 ^ BV.natBits b * 2 ^ (BV.natBits a - BV.natBits b) :=
      Nat.mul_lt_mul_of_pos_right (BV.lt_two_pow_natBits b) (Nat.two_pow_pos _)
    _ = _ := by rw [← Nat.pow_add, Nat.add_sub_cancel' h]

/-- What every `div_rem` does once the divisor `d1` (of value `X`) has the subject's length: shift it up by the difference
of the significant bits (`ssig`, `xsig`: the model's counts) and run the loop.  `Iq`, `Ir`, `Id` as in `divLoop_refines`,
all for values below `2^L`; `shl` may assume that nothing is shifted out. -/
theorem divLoop_main {α : Type} (ge : α → α → Bool) (sub : α → α → α) (setOne : α → Nat → α)
    (shr1 : α → α) (shl : α → Nat → α) (Iq Ir Id : α → Prop) (val : α → Nat) (L : Nat)
    (hge : ∀ r d, Ir r → Id d → ge r d = decide (val d ≤ val r))
    (hsub : ∀ r d, Ir r → Id d → val d ≤ val r → Ir (sub r d) ∧ val (sub r d) = val r - val d)
    (hset : ∀ q i, Iq q → i < L → (val q).testBit i = false →
      Iq (setOne q i) ∧ val (setOne q i) = val q + 2 ^ i)
    (hshr : ∀ d, Id d → Id (shr1 d) ∧ val (shr1 d) = val d / 2)
    (hshl : ∀ d k, Id d → val d * 2 ^ k < 2 ^ L → Id (shl d k) ∧ val (shl d k) = val d * 2 ^ k)
    (q0 s d1 : α) {X ssig xsig : Nat} (hq : Iq q0) (hs : Ir s) (hd : Id d1) (hq0 : val q0 = 0) (hsL : val s < 2 ^ L)
    (hdv : val d1 = X) (hb : X ≠ 0) (hsig : BV.natBits X ≤ BV.natBits (val s))
    (hss : ssig = BV.natBits (val s)) (hxs : xsig = BV.natBits X) :
    ∃ q r, divLoop ge sub setOne shr1 (ssig - xsig + 1) q0 s (shl d1 (ssig - xsig)) = (q, r) ∧
      Iq q ∧ Ir r ∧ val q = val s / X ∧ val r = val s % X := by
  subst hdv hss hxs
  have hsl : BV.natBits (val s) ≤ L := (BV.natBits_le_iff _ _).mpr hsL
  obtain ⟨e1, e2⟩ := hshl d1 _ hd
    (lt_two_pow_of_le (BV.mul_two_pow_natBits_sub_lt _ _ hsig) hsl)
  obtain ⟨h1, h2, h3⟩ := divLoop_refines ge sub setOne shr1 Iq Ir Id val L hge hsub hset hshr
    (BV.natBits (val s) - BV.natBits (val d1) + 1) q0 s _
    (Nat.le_trans (Nat.sub_lt_of_pos_le (BV.natBits_pos _ hb) hsig) hsl) hq hs e1 (by rw [hq0]; exact Nat.zero_mod _)
  rw [hq0, divLoopNat_spec (val s) (val d1) _ _ hb e2 (BV.lt_mul_two_pow_natBits_sub_succ _ _ hb hsig)] at h3
  generalize divLoop _ _ _ _ _ _ _ _ = p at h1 h2 h3
  exact ⟨p.1, p.2, rfl, h1, h2, congrArg Prod.fst h3, congrArg Prod.snd h3⟩

variable {w : Nat}

/-- what `div_rem`'s loop keeps of quotient, remainder and divisor: `Inv` with the bit length and the allocation fixed -/
def div_J (L N : Nat) (t : Raw w) : Prop := t.Inv ∧ t.length = L ∧ t.data.size = N

theorem div_J.of_refines {L N : Nat} {t t' : Raw w} {a : BV} (ht : div_J L N t) (h : t'.Inv ∧ t'.abs = a)
    (hl : t'.length = t.length) (hn : t'.data.size = t.data.size) :
    div_J L N t' ∧ t'.abs.val = a.val :=
  ⟨⟨h.1, hl.trans ht.2.1, hn.trans ht.2.2⟩, congrArg BV.val h.2⟩

theorem div_J.abs {L N : Nat} {t : Raw w} (ht : div_J L N t) : t.abs = ⟨L, t.abs.val⟩ :=
  congrArg (BV.mk · _) ht.2.1

theorem div_J.set (hw : 0 < w) {L N : Nat} {q : Raw w} (hq : div_J L N q) {i : Nat} (hi : i < L)
    (hb : q.abs.val.testBit i = false) :
    div_J L N (q.set i true) ∧ (q.set i true).abs.val = q.abs.val + 2 ^ i := by
  obtain ⟨h1, h2, h3⟩ := Raw.set_refines q i true hw hq.1 (hq.2.1 ▸ hi)
  exact hq.of_refines ⟨h1, h2.trans (BV.set_true_of_clear _ _ hb)⟩ rfl h3

theorem div_J.shr (hw : 0 < w) {L N : Nat} {d : Raw w} (hd : div_J L N d) :
    div_J L N (d.shrAssign 1) ∧ (d.shrAssign 1).abs.val = d.abs.val / 2 := by
  obtain ⟨h1, h2⟩ := Raw.shrAssign_refines d hw hd.1 1
  exact hd.of_refines ⟨h1, h2.trans ((BV.shr_eq _ 1 (hd.1.wf hw)).trans (by rw [Nat.pow_one]))⟩ (Raw.shrAssign_length d 1)
    (Raw.shrAssign_size d hw hd.1 1)

theorem div_J.shl (hw : 0 < w) {L N : Nat} {d : Raw w} (hd : div_J L N d) {k : Nat}
    (h : d.abs.val * 2 ^ k < 2 ^ L) :
    div_J L N (d.shlAssign k) ∧ (d.shlAssign k).abs.val = d.abs.val * 2 ^ k := by
  obtain ⟨h1, h2⟩ := Raw.shlAssign_refines d hw hd.1 k
  exact hd.of_refines ⟨h1, h2.trans ((BV.shl_eq _ _).trans (congrArg (BV.mk _) (Nat.mod_eq_of_lt (show _ < 2 ^ d.length from hd.2.1.symm ▸ h))))⟩
    (Raw.shlAssign_length d k)
    (Raw.shlAssign_size d hw hd.1 k)

/-- `set`, `shr` and `shl` are the same for `Bvf` and `Bvd` (`Raw`); `ge` and `sub` are each implementation's own and stay
parameters.  `d1` is the divisor `X` at the subject's length; `ssig`, `xsig` are the model's counts of significant bits. -/
theorem divLoop_main_raw (hw : 0 < w) (ge : Raw w → Raw w → Bool) (sub : Raw w → Raw w → Raw w)
    (s q0 d1 : Raw w) {Nq Nd X ssig xsig : Nat}
    (hge : ∀ r d, div_J s.length s.data.size r → div_J s.length Nd d →
      ge r d = decide (d.abs.val ≤ r.abs.val))
    (hsub : ∀ r d, div_J s.length s.data.size r → div_J s.length Nd d → d.abs.val ≤ r.abs.val →
      div_J s.length s.data.size (sub r d) ∧ (sub r d).abs.val = r.abs.val - d.abs.val)
    (hs : s.Inv) (hq : div_J s.length Nq q0) (hq0 : q0.abs.val = 0)
    (hd1 : d1.Inv) (hd1a : d1.abs = ⟨s.length, X⟩) (hd1n : d1.data.size = Nd) (hb : X ≠ 0)
    (hsig : BV.natBits X ≤ BV.natBits s.abs.val) (hss : ssig = BV.natBits s.abs.val) (hxs : xsig = BV.natBits X) :
    ∃ q r, divLoop ge sub (fun q i => q.set i true) (fun d => d.shrAssign 1) (ssig - xsig + 1) q0 s
        (d1.shlAssign (ssig - xsig)) = (q, r) ∧
      div_J s.length Nq q ∧ div_J s.length s.data.size r ∧
      q.abs = ⟨s.length, s.abs.val / X⟩ ∧ r.abs = ⟨s.length, s.abs.val % X⟩ := by
  obtain ⟨q, r, e, r1, r2, r3, r4⟩ := divLoop_main ge sub (fun q i => q.set i true) (fun d => d.shrAssign 1)
    (fun d k => d.shlAssign k) (div_J s.length Nq) (div_J s.length s.data.size) (div_J s.length Nd)
    (fun t => t.abs.val) s.length hge hsub (fun q i hq hi hb => hq.set hw hi hb) (fun d hd => hd.shr hw)
    (fun d k hd h => hd.shl hw h) q0 s d1 hq ⟨hs, rfl, rfl⟩ ⟨hd1, congrArg BV.len hd1a, hd1n⟩ hq0 (hs.wf hw)
    (congrArg BV.val hd1a) hb hsig hss hxs
  exact ⟨q, r, e, r1, r2, r1.abs.trans (congrArg _ r3), r2.abs.trans (congrArg _ r4)⟩

theorem AnyBv.isZero_eq (x : AnyBv) (hx : div_AnyInv x) : x.isZero = x.abs.isZero := by
  cases x with
  | f w b => exact Bvf.isZero_eq_any b
  | d b => exact Bvd.isZero_eq b hx

theorem AnyBv.sigBits_eq (x : AnyBv) (hx : div_AnyInv x) : x.sigBits = BV.natBits x.abs.val := by
  cases x with
  | f w b => exact Raw.sigBits_eq b hx.1 hx.2
  | d b => exact Raw.sigBits_eq b (by decide) hx

theorem Raw.Inv.lt_two_pow_of_natBits_le {s : Raw w} (h : s.Inv) (hw : 0 < w) {X : Nat}
    (hsig : BV.natBits X ≤ BV.natBits s.abs.val) : X < 2 ^ s.length :=
  lt_two_pow_of_le (BV.lt_two_pow_natBits _) (Nat.le_trans hsig ((BV.natBits_le_iff _ _).mpr (h.wf hw)))

/-- The skeleton the three `div_rem` share: a zero divisor panics; a divisor with more significant bits than
the subject gives quotient zero (`q0`) and the subject as remainder; otherwise `rest` runs, and then the divisor is
non-zero and fits the subject. -/
theorem divRem_shape {α : Type} (I : α → Prop) (abs : α → BV) (x : AnyBv) (hx : div_AnyInv x) (s q0 : α)
    (ssig : Nat) (hs : I s) (hq0 : I q0) (hsig : ssig = BV.natBits (abs s).val) (hq0a : abs q0 = ⟨(abs s).len, 0⟩)
    (rest : Res (α × α))
    (hrest : x.abs.val ≠ 0 → BV.natBits x.abs.val ≤ BV.natBits (abs s).val →
      ∃ q r, rest = .ok (q, r) ∧ I q ∧ I r ∧ abs q = (abs s).div x.abs ∧ abs r = (abs s).rem x.abs) :
    (x.abs.val = 0 →
      (if x.isZero then .panic else if x.sigBits > ssig then .ok (q0, s) else rest) = .panic) ∧
    (x.abs.val ≠ 0 → ∃ q r,
      (if x.isZero then Res.panic else if x.sigBits > ssig then .ok (q0, s) else rest) = .ok (q, r) ∧
        I q ∧ I r ∧ abs q = (abs s).div x.abs ∧ abs r = (abs s).rem x.abs) := by
  rw [AnyBv.isZero_eq x hx, AnyBv.sigBits_eq x hx, hsig]
  refine ⟨fun h0 => if_pos (beq_iff_eq.mpr h0), fun h0 => ?_⟩
  rw [if_neg (fun hz : x.abs.isZero = true => h0 (beq_iff_eq.mp hz))]
  by_cases hlt : BV.natBits x.abs.val > BV.natBits (abs s).val
  · have hlt' := BV.lt_of_natBits_lt _ _ hlt
    rw [if_pos hlt]
    refine ⟨_, _, rfl, hq0, hs, ?_, ?_⟩
    · rw [hq0a, BV.div, Nat.div_eq_of_lt hlt']
    · rw [BV.rem, Nat.mod_eq_of_lt hlt']
  · rw [if_neg hlt]
    exact hrest h0 (Nat.le_of_not_gt hlt)

theorem div_J.sub_of_refines {L N : Nat} {r t : Raw w} {x : BV} (hw : 0 < w) (hr : div_J L N r)
    (h : t.Inv ∧ t.abs = r.abs.sub x ∧ t.data.size = r.data.size) (hle : x.val ≤ r.abs.val) :
    div_J L N t ∧ t.abs.val = r.abs.val - x.val := by
  have e := BV.sub_of_le _ _ (hr.1.wf hw) hle
  exact hr.of_refines ⟨h.1, h.2.1.trans e⟩ (congrArg BV.len (h.2.1.trans e)) h.2.2

/-- `hconv` is what `Bvd.fromBvf_refines` provides for a `Bvf` operand and is trivial (`⟨ho, rfl⟩`) for a `Bvd` operand -/
theorem Bvd.divRem_refines (s : Raw 64) (x : AnyBv) (h : s.Inv) (hx : div_AnyInv x)
    (hconv : (Bvd.convert x).Inv ∧ (Bvd.convert x).abs.val = x.abs.val) :
    (x.abs.val = 0 → Bvd.divRem s x = .panic) ∧
    (x.abs.val ≠ 0 → ∃ q r, Bvd.divRem s x = .ok (q, r) ∧ q.Inv ∧ r.Inv ∧
        q.abs = s.abs.div x.abs ∧ r.abs = s.abs.rem x.abs) := by
  have hw : 0 < 64 := by decide
  obtain ⟨z1, z2, _⟩ := Bvd.zeros_refines s.length
  unfold Bvd.divRem
  dsimp only
  refine divRem_shape Raw.Inv Raw.abs x hx s _ _ h z1 (Raw.sigBits_eq s hw h) z2 _ fun h0 hsig => ?_
  obtain ⟨c1, c2⟩ := Bvd.resize_refines (Bvd.convert x) s.length false hconv.1
  rw [BV.resize_zext _ _ (by rw [hconv.2]; exact h.lt_two_pow_of_natBits_le hw hsig), hconv.2] at c2
  obtain ⟨q, r, e, r1, r2, r3, r4⟩ := divLoop_main_raw hw
    (fun r d => Bvd.cmpBvd r d != .lt) (fun r d => Bvd.addsubAssign true r (.d d)) s
    (Bvd.zeros s.length) (Bvd.resize (Bvd.convert x) s.length false)
    (fun r d _ _ => by rw [Bvd.cmpBvd_eq_any, compare_bne_lt])
    (fun r d hr hd hle => hr.sub_of_refines hw (Bvd.addsubAssign_refines true r (.d d) hr.1
      (fun n _ => Bvd.rhsWords_val _ (.of_d d compat64 hd.1) n) (Bvd.rhsWords_lt _ (.of_d d compat64 hd.1))) hle)
    h ⟨z1, rfl, rfl⟩ (congrArg BV.val z2) c1 c2 rfl h0 hsig (Raw.sigBits_eq s hw h) (AnyBv.sigBits_eq x hx)
  rw [e]
  exact ⟨q, r, rfl, r1.1, r2.1, r3, r4⟩

/-- `hc` holds for every word type of the crate (`u8 … u128`) -/
theorem Bvd.divRem_refines_of_compat (s : Raw 64) (x : AnyBv) (h : s.Inv) (hx : div_AnyInv x)
    (hc : Compat (div_anyW x) 64) :
    (x.abs.val = 0 → Bvd.divRem s x = .panic) ∧
    (x.abs.val ≠ 0 → ∃ q r, Bvd.divRem s x = .ok (q, r) ∧ q.Inv ∧ r.Inv ∧
        q.abs = s.abs.div x.abs ∧ r.abs = s.abs.rem x.abs) :=
  have ⟨c1, c2⟩ := Bvd.convert_refines x (div_srcOk hx hc)
  Bvd.divRem_refines s x h hx ⟨c1, by rw [c2]⟩

/-- `divisor.copy_range(0, divisor.significant_bits())` (repair D1): the value is kept, the length becomes the number of
significant bits, which is what lets the conversion into `Self` succeed.  The result has the operand's word width, also
when a `Bv` operand on the heap comes back inline (as a `Bvf<u64,2>`). -/
theorem AnyBv.copyRange_zero_sigBits (kind : SrcKind) (x : AnyBv) (hx : div_AnyInv x) :
    div_AnyInv (x.copyRange kind 0 x.sigBits) ∧
    (x.copyRange kind 0 x.sigBits).abs = ⟨x.abs.sig, x.abs.val⟩ ∧
    div_anyW (x.copyRange kind 0 x.sigBits) = div_anyW x := by
  cases x with
  | f w1 b =>
    have hs : b.sigBits = b.abs.sig := Raw.sigBits_eq b hx.1 hx.2
    obtain ⟨h1, h2⟩ := Bvf.copyRange_refines b 0 b.sigBits hx.1 hx.2 (Nat.zero_le _)
      (by rw [hs]; exact BV.sig_le_len _ (hx.2.wf hx.1))
    -- `Eq.refl w1` and not `rfl`, which has the unifier compare the two operands before it looks at their widths
    refine ⟨⟨hx.1, h1⟩, ?_, Eq.refl w1⟩
    show (Bvf.copyRange b 0 b.sigBits).abs = _
    rw [h2, hs, BV.copyRange_zero_sig]; rfl
  | d b =>
    have hs : b.sigBits = b.abs.sig := Raw.sigBits_eq b (by decide) hx
    obtain ⟨h1, h2'⟩ := Bvd.copyRange_refines b 0 b.sigBits (Nat.zero_le _)
    have h2 : (Bvd.copyRange b 0 b.sigBits).abs = ⟨b.abs.sig, b.abs.val⟩ := by
      rw [h2', hs, BV.copyRange_zero_sig]
    show div_AnyInv (AnyBv.copyRange kind (.d b) 0 b.sigBits) ∧
      (AnyBv.copyRange kind (.d b) 0 b.sigBits).abs = ⟨b.abs.sig, b.abs.val⟩ ∧
      div_anyW (AnyBv.copyRange kind (.d b) 0 b.sigBits) = 64
    unfold AnyBv.copyRange
    simp only
    split
    · -- `Bv::copy_range` of a heap vector, at most 128 bits copied: demoted to `Bvf<u64,2>`, which cannot fail
      rename_i hk
      obtain ⟨r, e, r1, r2, _⟩ := (Bvf.fromBvd_spec (w := 64) 2 (Bvd.copyRange b 0 b.sigBits)
        (Compat.refl (by decide)) h1).2 (Nat.not_lt.mpr hk.2)
      rw [e]
      refine ⟨⟨by decide, r1⟩, ?_, rfl⟩
      show r.abs = _
      rw [r2, h2]
    · -- `Bvd::copy_range`, or more than 128 bits: the fresh `Bvd` itself
      exact ⟨h1, h2, rfl⟩

/-- The `expect("divisor should fit in Self")` and the `resize` cannot fail, whatever the operand's type, length or capacity.
`2 ≤ w` comes from `rem -= &divisor`: `csub` adds two borrow flags in a word, which must not wrap (`b2w_add_no_overflow`). -/
theorem Bvf.divRem_refines (s : Raw w) (kind : SrcKind) (x : AnyBv) (hw : 2 ≤ w) (h : s.Inv)
    (hx : div_AnyInv x) (hc : Compat (div_anyW x) w) :
    (x.abs.val = 0 → Bvf.divRem s kind x = .panic) ∧
    (x.abs.val ≠ 0 → ∃ q r, Bvf.divRem s kind x = .ok (q, r) ∧ q.Inv ∧ r.Inv ∧
        q.abs = s.abs.div x.abs ∧ r.abs = s.abs.rem x.abs ∧
        q.data.size = s.data.size ∧ r.data.size = s.data.size) := by
  have hw0 : 0 < w := Nat.zero_lt_of_lt hw
  obtain ⟨z1, z2⟩ := Raw.zeros_refines s.data.size s.length hw0 h.1
  -- the skeleton, with length and allocation carried along with the invariant (`div_J`) and taken off at the end
  refine And.imp_right (fun key h0 => (key h0).imp fun q => Exists.imp fun r ⟨e, i1, i2, a1, a2⟩ =>
      ⟨e, i1.1, i2.1, a1, a2, i1.2.2, i2.2.2⟩)
    (divRem_shape (div_J s.length s.data.size) Raw.abs x hx s _ _ ⟨h, rfl, rfl⟩
      ⟨z1, rfl, Array.size_replicate ..⟩ (Raw.sigBits_eq s hw0 h) z2 _ fun h0 hsig => ?_)
  -- the divisor, cut to its significant bits, converts: it is no longer than the subject
  obtain ⟨t1, t2, t3⟩ := AnyBv.copyRange_zero_sigBits kind x hx
  have hl : ¬ s.data.size * w < (x.copyRange kind 0 x.sigBits).len := by
    rw [← AnyBv.abs_len, t2]
    exact Nat.not_lt.mpr (Nat.le_trans hsig (Nat.le_trans (BV.sig_le_len s.abs (h.wf hw0)) h.1))
  obtain ⟨d0, e0, i0, v0, n0⟩ := (Bvf.convert_spec s.data.size kind _ (div_srcOk t1 (t3 ▸ hc))).2 hl
  obtain ⟨d1, e1, c1, c2, n1⟩ := Bvf.resize_ok d0 s.length false hw0 i0 (Or.inl (by rw [n0]; exact h.1))
  rw [v0, t2, BV.resize_zext ⟨x.abs.sig, x.abs.val⟩ _ (h.lt_two_pow_of_natBits_le hw0 hsig)] at c2
  obtain ⟨q, r, e, r1, r2, r3, r4⟩ := divLoop_main_raw hw0
    (fun r d => Bvf.cmpBvf r d != .lt) (fun r d => Bvf.addsubAssign true r (.f w d)) s
    ⟨Array.replicate s.data.size 0#w, s.length⟩ d1
    (fun r d hr hd => by rw [(Bvf.eqcmp_num r d (.refl hw0) hr.1 hd.1).2, compare_bne_lt])
    (fun r d hr hd hle => hr.sub_of_refines hw0 (Bvf.addsubAssign_refines true r (.f w d) hw hr.1
      (Bvf.rhsWord_val hw0 _ _ (.of_f d (.refl hw0) hd.1))) hle)
    h ⟨z1, rfl, Array.size_replicate ..⟩ (congrArg BV.val z2) c1 c2 (by rw [n1, n0]) h0 hsig
    (Raw.sigBits_eq s hw0 h) (AnyBv.sigBits_eq x hx)
  simp only [e0, e1]
  rw [e]
  exact ⟨q, r, rfl, r1, r2, r3, r4⟩

end Bva
