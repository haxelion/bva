import BvaProofs.Operand
import BvaProofs.ChunkCopy
import BvaProofs.Edit
import BvaProofs.Shift
/-!
`append` / `prepend`: both implementations run the same two loops, over `u8` chunks through `get_int`/`set_int` (`Bvf`) or
over whole `u64` words (`Bvd`).  The loops are verified once, over an abstract chunked store (`spl_Sys`), and instantiated
twice.
-/
namespace Bva

theorem spl_Src.chunks {x : AnyBv} {J : Nat} (hx : spl_Src x J) :
    spl_Chunks (fun i => (x.getInt J i).getD 0#J) x.abs.bit x.len :=
  ⟨hx.bits, fun t ht => x.abs.bit_of_le_len hx.wf t (by rw [AnyBv.abs_len]; exact ht)⟩

section At
variable {J : Nat} {σ : Type} {bits : σ → Nat → Bool} {put : σ → Nat → BitVec J → σ}
  {get : σ → Nat → BitVec J} {P : σ → Prop} {L : Nat} {x : AnyBv}

theorem spl_append_at (sys : spl_Sys bits put get P L) (hx : spl_Src x J) (hJ : 0 < J) (len : Nat) (a1 : σ)
    (h1 : P a1) (hz : ∀ i, len ≤ i → bits a1 i = false) (hL : len + x.len ≤ L) :
    P (spl_appendG put get (fun i => (x.getInt J i).getD 0#J) (x.getInt J 0) (len % J) (len / J)
        (x.intLen J) a1) ∧
    ∀ i, bits (spl_appendG put get (fun i => (x.getInt J i).getD 0#J) (x.getInt J 0) (len % J) (len / J)
        (x.intLen J) a1) i = if i < len then bits a1 i else x.abs.bit (i - len) := by
  have e := Nat.div_add_mod' len J
  have core := spl_append_core sys hx.chunks (x.getInt J 0) (len % J) (len / J) (x.intLen J) a1 h1
    (Nat.mod_lt _ hJ) (by rw [e]; exact hz) (by rw [e]; exact hL) (le_cap_mul x.len hJ) hx.none0
    -- `get_int(0)` is `Some` only for a non-empty operand, and that has at least one chunk
    (fun b hb => ⟨by rw [hb]; rfl, Nat.pos_of_ne_zero fun h0 => by
      have h00 : x.len ≤ 0 * J := (cap_le_iff x.len 0 hJ).mp (Nat.le_of_eq h0)
      rw [Nat.zero_mul] at h00
      rw [AnyBv.getInt_none_of_len x J (Nat.le_zero.mp h00)] at hb
      cases hb⟩)
  rwa [e] at core

theorem spl_prepend_at (sys : spl_Sys bits put get P L) (hx : spl_Src x J) (hJ : 0 < J) (a2 : σ) (h2 : P a2)
    (hL : x.len ≤ L) (hz : ∀ i, i < x.len → bits a2 i = false) :
    P (spl_prependG put get (fun i => (x.getInt J i).getD 0#J) (x.intLen J - 1) a2) ∧
    ∀ i, bits (spl_prependG put get (fun i => (x.getInt J i).getD 0#J) (x.intLen J - 1) a2) i =
      if i < x.len then x.abs.bit i else bits a2 i := by
  -- `last = intLen - 1` is the chunk of bit `len - 1` (chunk 0 for an empty operand)
  have h3 : x.intLen J * J ≤ x.len + J - 1 := Nat.div_mul_le_self _ _
  have h4 : x.len ≤ x.intLen J * J := le_cap_mul x.len hJ
  refine spl_prepend_core sys hx.chunks (x.intLen J - 1) a2 h2 ?_ ?_ hL hz
  · rw [Nat.sub_mul, Nat.one_mul]
    exact Nat.sub_le_iff_le_add.mpr (Nat.le_trans h3 (Nat.sub_le _ _))
  · rw [← Nat.succ_mul]
    exact Nat.le_trans h4 (Nat.mul_le_mul_right J (Nat.le_succ_of_pred_le (Nat.le_refl _)))

end At

/-- `Bvd`: whole words; the invariant fixes the allocation size -/
theorem spl_sysD (N : Nat) :
    spl_Sys (J := 64) (fun (a : Array (BitVec 64)) i => bitAt a i) (fun a idx v => a.setIfInBounds idx v)
      (fun a idx => wd a idx) (fun a => a.size = N) (N * 64) := by
  refine { put_P := fun a idx v h => (Array.size_setIfInBounds ..).trans h, put_bits := fun a idx v i h => ?_,
           get_bits := fun a idx j _ => wd_chunks a idx j }
  rw [bitAt_setWord (by decide), h]
  -- for a bit `i` of word `idx`, "the word exists" is "`i` lies below `N * 64`"
  refine ite_congr (propext ⟨fun c => ⟨c.1.1, c.1.2, Nat.lt_of_lt_of_le c.1.2 ?_⟩,
    fun c => ⟨⟨c.1, c.2.1⟩, Nat.lt_of_mul_lt_mul_right (Nat.lt_of_le_of_lt c.1 c.2.2)⟩⟩) (fun _ => rfl) fun _ => rfl
  exact Nat.succ_mul idx 64 ▸ Nat.mul_le_mul_right 64 (Nat.succ_le_of_lt c.2)

theorem spl_finish_append {w : Nat} (hw : 0 < w) (s r : Raw w) (x : AnyBv) (h : s.Inv) (hxwf : x.abs.WF)
    (hlen : r.length = s.length + x.len) (hcap : r.length ≤ r.data.size * w)
    (hb : ∀ i, bitAt r.data i = if i < s.length then bitAt s.data i else x.abs.bit (i - s.length)) :
    r.Inv ∧ r.abs = s.abs.append x.abs :=
  Raw.refines_of_bits r _ hw (BV.append_wf _ _ (h.wf hw) hxwf) (by rw [hlen, ← AnyBv.abs_len]; rfl) hcap
    (fun i => by rw [hb, BV.append_bit _ _ (h.wf hw), Raw.abs_bit _ _ hw]; rfl)

theorem spl_finish_prepend {w : Nat} (hw : 0 < w) (s r : Raw w) (x : AnyBv) (hxwf : x.abs.WF)
    (hlen : r.length = s.length + x.len) (hcap : r.length ≤ r.data.size * w) (h : s.Inv)
    (hb : ∀ i, bitAt r.data i = if i < x.len then x.abs.bit i else bitAt s.data (i - x.len)) :
    r.Inv ∧ r.abs = s.abs.prepend x.abs := by
  rw [BV.lv_prepend_eq_append]
  exact Raw.refines_of_bits r _ hw (BV.append_wf _ _ hxwf (h.wf hw))
    (by rw [hlen, ← AnyBv.abs_len, Nat.add_comm]; rfl) hcap
    (fun i => by rw [hb, BV.append_bit _ _ hxwf, Raw.abs_bit _ _ hw, AnyBv.abs_len])

/-- growing by `resize(_, false)` changes no storage bit: those above `length` are zero already -/
theorem spl_resize_bits {w : Nat} (hw : 0 < w) (s s1 : Raw w) (h : s.Inv) (k : Nat)
    (h2 : s1.abs = s.abs.resize (s.length + k) false) :
    s1.length = s.length + k ∧ ∀ i, bitAt s1.data i = bitAt s.data i := by
  refine ⟨(congrArg BV.len h2).trans (BV.resize_len ..), fun i => ?_⟩
  rw [← Raw.abs_bit _ _ hw, h2, BV.resize_bit _ _ _ (h.wf hw), Raw.abs_bit _ _ hw, Raw.abs_len]
  by_cases c : i < s.length
  · rw [if_pos c, decide_eq_true (Nat.lt_of_lt_of_le c (Nat.le_add_right _ _)), Bool.true_and]
  · rw [if_neg c, Bool.and_false, h.2 i (Nat.le_of_not_lt c)]

/-- `s1` is `s` grown by `k` zero bits (`spl_resize_bits`); shifted up by `k` it holds `k` zeros, then the bits of `s` -/
theorem spl_shl_bits {w : Nat} (hw : 0 < w) (s s1 : Raw w) (h : s.Inv) (k : Nat) (r1 : s1.Inv)
    (r2 : s1.length = s.length + k) (r3 : ∀ i, bitAt s1.data i = bitAt s.data i) :
    (s1.shlAssign k).Inv ∧ (s1.shlAssign k).length = s.length + k ∧
    (s1.shlAssign k).data.size = s1.data.size ∧
    (∀ i, i < k → bitAt (s1.shlAssign k).data i = false) ∧
    ∀ i, ¬ i < k → bitAt (s1.shlAssign k).data i = bitAt s.data (i - k) := by
  refine ⟨(Raw.shlAssign_refines s1 hw r1 k).1, by rw [Raw.shlAssign_length, r2],
    Raw.shlAssign_size s1 hw r1 k, fun i c => ?_, fun i c => ?_⟩
  · rw [Raw.shlAssign_bits s1 hw r1, decide_eq_false fun c' => Nat.not_le.mpr c c'.1, Bool.false_and]
  · rw [Raw.shlAssign_bits s1 hw r1, r3, r2]
    by_cases c' : i < s.length + k
    · rw [decide_eq_true ⟨Nat.le_of_not_lt c, c'⟩, Bool.true_and]
    · rw [h.2 _ (Nat.le_sub_of_add_le (Nat.le_of_not_lt c')), Bool.and_false]

theorem spl_Bvd_resize (s : Raw 64) (h : s.Inv) (k : Nat) :
    (Bvd.resize s (s.length + k) false).Inv ∧ (Bvd.resize s (s.length + k) false).length = s.length + k ∧
    ∀ i, bitAt (Bvd.resize s (s.length + k) false).data i = bitAt s.data i := by
  obtain ⟨h1, h2⟩ := Bvd.resize_refines s (s.length + k) false h
  exact ⟨h1, spl_resize_bits (by decide) s _ h k h2⟩

theorem spl_Bvd_append_eq (s : Raw 64) (x : AnyBv) :
    Bvd.append s x =
      ⟨spl_appendG (fun a idx v => a.setIfInBounds idx v) (fun a idx => wd a idx)
          (fun i => (x.getInt 64 i).getD 0#64) (x.getInt 64 0) (s.length % 64) (s.length / 64) (x.intLen 64)
          (Bvd.resize s (s.length + x.len) false).data,
        (Bvd.resize s (s.length + x.len) false).length⟩ := by
  unfold Bvd.append spl_appendG
  by_cases ho : s.length % 64 = 0
  · rw [if_pos ho, if_pos ho]
  · rw [if_neg ho, if_neg ho]
    cases x.getInt 64 0 <;> rfl

theorem Bvd.append_refines (s : Raw 64) (x : AnyBv) (h : s.Inv) (hx : spl_Src x 64) :
    (Bvd.append s x).Inv ∧ (Bvd.append s x).abs = s.abs.append x.abs := by
  obtain ⟨r1, r2, r3⟩ := spl_Bvd_resize s h x.len
  rw [spl_Bvd_append_eq]
  generalize Bvd.resize s (s.length + x.len) false = s1 at r1 r2 r3
  obtain ⟨c1, c2⟩ := spl_append_at (spl_sysD s1.data.size) hx (by decide) s.length s1.data rfl
    (fun i hi => by rw [r3]; exact h.2 i hi) (by rw [← r2]; exact r1.1)
  exact spl_finish_append (by decide) s _ x h hx.wf r2 (by dsimp only; rw [c1]; exact r1.1)
    (fun i => by dsimp only; rw [c2, r3])

theorem spl_Bvd_prepend_eq (s : Raw 64) (x : AnyBv) (hx0 : x.len ≠ 0) :
    Bvd.prepend s x =
      ⟨spl_prependG (fun a idx v => a.setIfInBounds idx v) (fun a idx => wd a idx)
          (fun i => (x.getInt 64 i).getD 0#64) (x.intLen 64 - 1)
          ((Bvd.resize s (s.length + x.len) false).shlAssign x.len).data,
        ((Bvd.resize s (s.length + x.len) false).shlAssign x.len).length⟩ := by
  unfold Bvd.prepend spl_prependG
  rw [if_neg hx0]
  simp only
  rw [modify_eq_setIfInBounds]

theorem Bvd.prepend_refines (s : Raw 64) (x : AnyBv) (h : s.Inv) (hx : spl_Src x 64) :
    (Bvd.prepend s x).Inv ∧ (Bvd.prepend s x).abs = s.abs.prepend x.abs := by
  by_cases hx0 : x.len = 0
  · unfold Bvd.prepend
    rw [if_pos hx0]
    exact spl_finish_prepend (by decide) s s x hx.wf (by rw [hx0]; rfl) h.1 h
      (fun i => by rw [hx0, if_neg (Nat.not_lt_zero i)]; rfl)
  · obtain ⟨r1, r2, r3⟩ := spl_Bvd_resize s h x.len
    rw [spl_Bvd_prepend_eq s x hx0]
    generalize Bvd.resize s (s.length + x.len) false = s1 at r1 r2 r3
    obtain ⟨t1, t2, t3, t4, t5⟩ := spl_shl_bits (by decide) s s1 h x.len r1 r2 r3
    generalize s1.shlAssign x.len = s2 at t1 t2 t3 t4 t5
    obtain ⟨c1, c2⟩ := spl_prepend_at (spl_sysD s2.data.size) hx (by decide) s2.data rfl
      (Nat.le_trans (by rw [t2]; exact Nat.le_add_left ..) t1.1) t4
    exact spl_finish_prepend (by decide) s _ x hx.wf t2 (by dsimp only; rw [c1]; exact t1.1) h
      (fun i => by dsimp only; exact (c2 i).trans (ite_congr rfl (fun _ => rfl) (t5 i)))

theorem spl_Bvf_resize {w : Nat} (s : Raw w) (hw : 0 < w) (h : s.Inv) (k : Nat)
    (hfit : s.length + k ≤ s.data.size * w) :
    ∃ s1, Bvf.resize s (s.length + k) false = .ok s1 ∧ s1.Inv ∧ s1.length = s.length + k ∧
      s1.data.size = s.data.size ∧ ∀ i, bitAt s1.data i = bitAt s.data i := by
  obtain ⟨s1, e, h1, h2, h3⟩ := Bvf.resize_ok s (s.length + k) false hw h (Or.inl hfit)
  exact ⟨s1, e, h1, (spl_resize_bits hw s s1 h k h2).1, h3, (spl_resize_bits hw s s1 h k h2).2⟩

theorem spl_Bvf_append_eq {w : Nat} (s s1 : Raw w) (x : AnyBv)
    (hr : Bvf.resize s (s.length + x.len) false = .ok s1) :
    Bvf.append s x =
      .ok (spl_appendG (fun a idx v => a.setInt 8 idx v) (fun a idx => (a.getInt 8 idx).getD 0#8)
          (fun i => (x.getInt 8 i).getD 0#8) (x.getInt 8 0) (s.length % 8) (s.length / 8) (x.intLen 8) s1) := by
  unfold Bvf.append spl_appendG
  simp only [hr]
  by_cases ho : s.length % 8 = 0
  · rw [if_pos ho, if_pos ho]
  · rw [if_neg ho, if_neg ho]
    cases x.getInt 8 0 <;> rfl

theorem Bvf.append_ok {w : Nat} (s : Raw w) (x : AnyBv) (hw : 0 < w) (h8 : 8 ∣ w) (h : s.Inv)
    (hx : spl_Src x 8) (hfit : s.length + x.len ≤ s.data.size * w) :
    ∃ r, Bvf.append s x = .ok r ∧ r.Inv ∧ r.abs = s.abs.append x.abs ∧ r.data.size = s.data.size := by
  obtain ⟨s1, e, r1, r2, r3, r4⟩ := spl_Bvf_resize s hw h x.len hfit
  rw [spl_Bvf_append_eq s s1 x e]
  have sys := spl_sysF (Compat.of_dvd hw (by decide) h8) (s.length + x.len) s.data.size
  obtain ⟨⟨c1, c2, c3⟩, c4⟩ := spl_append_at sys hx (by decide) s.length s1 ⟨r1, r2, r3⟩
    (fun i hi => by rw [r4]; exact h.2 i hi) (Nat.le_refl _)
  exact ⟨_, rfl, c1, (spl_finish_append hw s _ x h hx.wf c2 c1.1 (fun i => by rw [c4, r4])).2, c3⟩

theorem Bvf.append_panic {w : Nat} (s : Raw w) (x : AnyBv)
    (hover : s.data.size * w < s.length + x.len) (hx0 : 0 < x.len) : Bvf.append s x = .panic := by
  unfold Bvf.append
  simp only [Bvf.resize_panic s (s.length + x.len) false hover (Nat.lt_add_of_pos_right hx0)]

theorem spl_Bvf_prepend_eq {w : Nat} (s s1 : Raw w) (x : AnyBv) (hx0 : x.len ≠ 0)
    (hr : Bvf.resize s (s.length + x.len) false = .ok s1) :
    Bvf.prepend s x =
      .ok (spl_prependG (fun a idx v => a.setInt 8 idx v) (fun a idx => (a.getInt 8 idx).getD 0#8)
          (fun i => (x.getInt 8 i).getD 0#8) (x.intLen 8 - 1) (s1.shlAssign x.len)) := by
  unfold Bvf.prepend spl_prependG
  rw [if_neg hx0]
  simp only [hr]

theorem Bvf.prepend_ok {w : Nat} (s : Raw w) (x : AnyBv) (hw : 0 < w) (h8 : 8 ∣ w) (h : s.Inv)
    (hx : spl_Src x 8) (hfit : s.length + x.len ≤ s.data.size * w) :
    ∃ r, Bvf.prepend s x = .ok r ∧ r.Inv ∧ r.abs = s.abs.prepend x.abs ∧ r.data.size = s.data.size := by
  by_cases hx0 : x.len = 0
  · unfold Bvf.prepend
    rw [if_pos hx0]
    exact ⟨s, rfl, h, (spl_finish_prepend hw s s x hx.wf (by rw [hx0]; rfl) h.1 h
      (fun i => by rw [hx0, if_neg (Nat.not_lt_zero i)]; rfl)).2, rfl⟩
  · obtain ⟨s1, e, r1, r2, r3, r4⟩ := spl_Bvf_resize s hw h x.len hfit
    rw [spl_Bvf_prepend_eq s s1 x hx0 e]
    obtain ⟨t1, t2, t3, t4, t5⟩ := spl_shl_bits hw s s1 h x.len r1 r2 r4
    generalize s1.shlAssign x.len = s2 at t1 t2 t3 t4 t5
    have sys := spl_sysF (Compat.of_dvd hw (by decide) h8) (s.length + x.len) s.data.size
    obtain ⟨⟨c1, c2, c3⟩, c4⟩ := spl_prepend_at sys hx (by decide) s2 ⟨t1, t2, by rw [t3, r3]⟩ (Nat.le_add_left _ _) t4
    exact ⟨_, rfl, c1, (spl_finish_prepend hw s _ x hx.wf c2 c1.1 h
      (fun i => (c4 i).trans (ite_congr rfl (fun _ => rfl) (t5 i)))).2, c3⟩

theorem Bvf.prepend_panic {w : Nat} (s : Raw w) (x : AnyBv)
    (hover : s.data.size * w < s.length + x.len) (hx0 : 0 < x.len) : Bvf.prepend s x = .panic := by
  unfold Bvf.prepend
  rw [if_neg (Nat.ne_of_gt hx0)]
  simp only [Bvf.resize_panic s (s.length + x.len) false hover (Nat.lt_add_of_pos_right hx0)]

end Bva
