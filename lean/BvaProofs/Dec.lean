import BvaProofs.L0Numeral
import BvaProofs.Div
/-!
`Display`: the digit loop (repeated `div_rem` by ten) is `BV.numeralAux 10` on the value, shown once for `Bvf` and `Bvd`
(`dec_go_eq`); its failure arms in the model are never taken.
-/
namespace Bva
variable {w : Nat}

/-- `L + 1` is the fuel the model gives the `while !quotient.is_zero()` loop; a value below `2^L` has at most `L` decimal
digits, so the fuel never runs out -/
theorem dec_ndig_le (v n L : Nat) (h : fmt_IsNDig 10 v n) (hv : v < 2 ^ L) : n ≤ L + 1 := by
  cases n with
  | zero => exact Nat.zero_le _
  | succ m =>
    have h4 : (2 : Nat) ^ m < 2 ^ L := Nat.lt_of_le_of_lt (Nat.le_trans (Nat.pow_le_pow_left (by decide) m) h.le) hv
    exact Nat.succ_le_succ (Nat.le_of_lt ((Nat.pow_lt_pow_iff_right (a := 2) (by decide)).mp h4))

theorem dec_finish (v L : Nat) (hv : v < 2 ^ L) :
    (if (BV.numeralAux 10 false (L + 1) v []).isEmpty = true then ['0']
      else BV.numeralAux 10 false (L + 1) v []) = BV.numeral 10 false v := by
  obtain ⟨n, hn⟩ := fmt_IsNDig_exists 10 (by decide) v
  rw [fmt_numeral_eq 10 false (by decide) v n hn,
    fmt_numeralAux_eq 10 false (by decide) (L + 1) v n [] hn (dec_ndig_le v n L hn hv),
    List.append_nil, fmt_isEmpty_digs]
  by_cases h0 : n = 0 <;> simp [h0]

theorem dec_div10_lt (v f : Nat) (h : v < 2 ^ (f + 1)) : v / 10 < 2 ^ f := by
  rw [Nat.pow_succ, Nat.mul_comm] at h
  exact Nat.div_lt_of_lt_mul (Nat.lt_of_lt_of_le h (Nat.mul_le_mul_right _ (by decide)))

theorem dec_round {a x q r : BV} (hx : x.val = 10) (hq : q = a.div x) (hr : r = a.rem x) :
    q.val = a.val / 10 ∧ r.val = a.val % 10 ∧ r.sig ≤ 32 := by
  subst hq hr
  refine ⟨congrArg (a.val / ·) hx, congrArg (a.val % ·) hx, (BV.natBits_le_iff _ _).mpr ?_⟩
  show a.val % x.val < 2 ^ 32
  rw [hx]
  exact Nat.lt_trans (Nat.mod_lt _ (by decide)) (by decide)

/-- Any loop that stops at zero and otherwise takes one round of `div_rem` by ten and recurses (`hgz`, `hgs`: how
`decDigits.go` unfolds, for `Bvf` and for `Bvd`) is the `Nat` loop of the spec on the abstract value, provided a
round cannot fail and its remainder converts to `u32` (`hstep`). -/
theorem dec_go_eq {α : Type} (I : α → Prop) (val : α → Nat) (isZero : α → Bool) (dr : α → Res (α × α))
    (toU : α → Res Nat) (go : Nat → α → List Char → List Char)
    (hg0 : ∀ q acc, go 0 q acc = acc)
    (hgz : ∀ fuel q acc, isZero q = true → go (fuel + 1) q acc = acc)
    (hgs : ∀ fuel q acc q' r v, isZero q = false → dr q = .ok (q', r) → toU r = .ok v →
      go (fuel + 1) q acc = go fuel q' (BV.digitChar false v :: acc))
    (hz : ∀ q, I q → isZero q = (val q == 0))
    (hstep : ∀ q, I q → ∃ q' r, dr q = .ok (q', r) ∧ I q' ∧ val q' = val q / 10 ∧ toU r = .ok (val q % 10)) :
    ∀ (fuel : Nat) (q : α) (acc : List Char), I q → val q < 2 ^ fuel →
      go fuel q acc = BV.numeralAux 10 false fuel (val q) acc := by
  intro fuel
  induction fuel with
  | zero => intro q acc _ _; rw [hg0]; rfl
  | succ fuel ih =>
    intro q acc hq hv
    unfold BV.numeralAux
    by_cases hv0 : val q = 0
    · rw [hgz _ _ _ (by rw [hz q hq, hv0]; rfl), if_pos hv0]
    · obtain ⟨q', r, e, i1, hq', hr⟩ := hstep q hq
      rw [hgs _ _ _ _ _ _ (by rw [hz q hq]; simpa using hv0) e hr, if_neg hv0,
        ih q' _ i1 (by rw [hq']; exact dec_div10_lt _ _ hv), hq']

/-- `8 ≤ w` (true of every word type) makes `10u8` fit the first word: `Self::try_from(10u8)` cannot fail -/
theorem dec_Bvf_base (N : Nat) (h8 : 8 ≤ w) (hN : 1 ≤ N) :
    (unwrapD (Bvf.fromUInt w N 8 10)).Inv ∧ (unwrapD (Bvf.fromUInt w N 8 10)).abs.val = 10 := by
  -- `10` has at most eight bits, and the storage at least the `w ≥ 8` of its first word
  obtain ⟨r, h1, h2, h3, _⟩ :=
    (Bvf.fromUInt_spec (w := w) N 8 10 (Nat.zero_lt_of_lt h8) hN (by decide)).2
      (Nat.not_lt.mpr (Nat.le_trans ((BV.natBits_le_iff 10 8).mpr (by decide))
        (Nat.le_trans h8 (Nat.le_mul_of_pos_left w hN))))
  rw [h1]
  exact ⟨h2, congrArg BV.val h3⟩

theorem dec_Bvf_step (base q : Raw w) (hw : 2 ≤ w) (hc : Compat w 32) (hb : base.Inv)
    (hbv : base.abs.val = 10) (hq : q.Inv) :
    ∃ q' r, Bvf.divRem q .bvf (.f w base) = .ok (q', r) ∧ q'.Inv ∧
      q'.abs.val = q.abs.val / 10 ∧ Bvf.toUInt r 32 = .ok (q.abs.val % 10) := by
  have hw0 : 0 < w := Nat.zero_lt_of_lt hw
  have hx : div_AnyInv (.f w base) := ⟨hw0, hb⟩
  have hcw : Compat (div_anyW (.f w base)) w := Compat.refl hw0
  obtain ⟨q', r, e, i1, i2, a1, a2, _, _⟩ :=
    (Bvf.divRem_refines q .bvf (.f w base) hw hq hx hcw).2 fun h => absurd (hbv.symm.trans h) (by decide)
  obtain ⟨hq', hr, hs⟩ := dec_round hbv a1 a2
  exact ⟨q', r, e, i1, hq', by rw [Bvf.toUInt_spec r 32 hc i2, if_pos hs, hr]⟩

/-- `h8`, `hN`: for `Self::try_from(10u8)` (`dec_Bvf_base`); `hc`: the remainder is read back as a `u32` -/
theorem Bvf.decDigits_eq (s : Raw w) (h8 : 8 ≤ w) (hc : Compat w 32) (hN : 1 ≤ s.data.size) (h : s.Inv) :
    Bvf.decDigits s = BV.numeral 10 false s.abs.val := by
  obtain ⟨b1, b2⟩ := dec_Bvf_base (w := w) s.data.size h8 hN
  have hv : s.abs.val < 2 ^ s.length := h.wf (Nat.zero_lt_of_lt h8)
  unfold Bvf.decDigits
  dsimp only
  generalize unwrapD (Bvf.fromUInt w s.data.size 8 10) = base at b1 b2
  rw [dec_go_eq Raw.Inv (fun q => q.abs.val) Bvf.isZero (fun q => Bvf.divRem q .bvf (.f w base))
    (fun r => Bvf.toUInt r 32) (Bvf.decDigits.go base) (fun _ _ => rfl)
    (fun _ _ _ h => by simp only [Bvf.decDigits.go, h, if_true])
    (fun _ _ _ _ _ _ h1 h2 h3 => by simp only [Bvf.decDigits.go, h1, h2, h3, Bool.false_eq_true, if_false])
    (fun q _ => Bvf.isZero_eq_any q) (fun q hq => dec_Bvf_step base q (Nat.le_trans (by decide) h8) hc b1 b2 hq) (s.length + 1) s [] h
    (lt_two_pow_of_le hv (Nat.le_succ _))]
  exact dec_finish _ _ hv

/-- `Bvd::from(10u8)` is ten -/
theorem dec_Bvd_base : (Bvd.fromUInt 8 10).Inv ∧ (Bvd.fromUInt 8 10).abs.val = 10 := by
  obtain ⟨h1, h2⟩ := Bvd.fromUInt_refines 8 10 (Or.inl (by decide)) (by decide)
  exact ⟨h1, by rw [h2]⟩

theorem dec_Bvd_step (base q : Raw 64) (hb : base.Inv) (hbv : base.abs.val = 10) (hq : q.Inv) :
    ∃ q' r, Bvd.divRem q (.d base) = .ok (q', r) ∧ q'.Inv ∧
      q'.abs.val = q.abs.val / 10 ∧ Bvd.toUInt r 32 = .ok (q.abs.val % 10) := by
  obtain ⟨q', r, e, i1, i2, a1, a2⟩ := (Bvd.divRem_refines q (.d base) hq hb ⟨hb, rfl⟩).2 fun h => absurd (hbv.symm.trans h) (by decide)
  obtain ⟨hq', hr, hs⟩ := dec_round hbv a1 a2
  exact ⟨q', r, e, i1, hq', by rw [Bvd.toUInt_spec r 32 i2, if_pos hs, hr]⟩

theorem Bvd.decDigits_eq (s : Raw 64) (h : s.Inv) : Bvd.decDigits s = BV.numeral 10 false s.abs.val := by
  obtain ⟨b1, b2⟩ := dec_Bvd_base
  have hv : s.abs.val < 2 ^ s.length := h.wf (by decide)
  unfold Bvd.decDigits
  dsimp only
  generalize Bvd.fromUInt 8 10 = base at b1 b2
  rw [dec_go_eq Raw.Inv (fun q => q.abs.val) Bvd.isZero (fun q => Bvd.divRem q (.d base))
    (fun r => Bvd.toUInt r 32) (Bvd.decDigits.go base) (fun _ _ => rfl)
    (fun _ _ _ h => by simp only [Bvd.decDigits.go, h, if_true])
    (fun _ _ _ _ _ _ h1 h2 h3 => by simp only [Bvd.decDigits.go, h1, h2, h3, Bool.false_eq_true, if_false])
    (fun q hq => Bvd.isZero_eq q hq) (fun q hq => dec_Bvd_step base q b1 b2 hq) (s.length + 1) s [] h
    (lt_two_pow_of_le hv (Nat.le_succ _))]
  exact dec_finish _ _ hv

theorem Bv.decDigits_eq (b : Bv) (h : div_BvInv b) : b.decDigits = BV.numeral 10 false b.abs.val := by
  cases b with
  | fixed r =>
    exact Bvf.decDigits_eq r (by decide) ⟨by decide, by decide, Or.inl ⟨2, by decide⟩⟩
      (by rw [h.2]; decide) h.1
  | dynamic r => exact Bvd.decDigits_eq r h

end Bva
