import BvaProofs.Base
import BvaModel.Step
/-! Length and `get` of a vector are those of its abstraction.  Kept apart from `Refine.lean` for `C17`: `Refine` brings
the Mathlib import of `Mul.lean`, under which the `2^64` of C17's `example` elaborates differently. -/
namespace Bva

/-- word widths of the vector are positive (true of every Rust instantiation) -/
def Vec.WPos : Vec → Prop
  | .f w _ => 0 < w
  | _ => True

theorem Vec.abs_len (v : Vec) : v.abs.len = v.len := by cases v <;> rfl

theorem Api.get_eq_bit (v : Vec) (hw : v.WPos) (i : Nat) : Api.get v i = v.abs.bit i := by
  rcases v with ⟨w, r⟩ | r | b
  · exact (Raw.get_eq_bitAt r i).trans (Raw.abs_bit r i hw).symm
  · exact (Raw.get_eq_bitAt r i).trans (Raw.abs_bit r i (by decide)).symm
  · exact (Raw.get_eq_bitAt b.raw i).trans (Raw.abs_bit b.raw i (by decide)).symm

end Bva
