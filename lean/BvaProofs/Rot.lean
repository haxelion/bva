import BvaProofs.Base
/-!
# Rotations

Both loops OR chunks of `old` into fresh storage; each is specified by a closed equation for the bits of its
result in terms of the `new` it is given.  `rotl` walks the source and `rotr` the target, so only `rotr` has its
result bit by bit; `rotl k` is then `rotr (length - k)` at the storage level as it is in the specification.
-/
namespace Bva
variable {w : Nat}

theorem add_mod_inj {n i j k : Nat} (hi : i < n) (hj : j < n)
    (h : (j + k) % n = (i + k) % n) : j = i := by
  have le : ∀ i j, j < n → (j + k) % n = (i + k) % n → j ≤ i := fun i j hj h => by
    have := Nat.sub_mod_eq_zero_of_mod_eq h
    rw [Nat.add_sub_add_right, Nat.mod_eq_of_lt (Nat.lt_of_le_of_lt (Nat.sub_le j i) hj)] at this
    exact Nat.le_of_sub_eq_zero this
  exact Nat.le_antisymm (le i j hj h) (le j i hi h.symm)

theorem add_mod_step {n rot len l t : Nat} (h : (n + rot) % len + l ≤ len) (ht : t < l) :
    (n + t + rot) % len = (n + rot) % len + t := by
  rw [Nat.add_right_comm, Nat.add_mod, Nat.mod_eq_of_lt (Nat.lt_of_lt_of_le ht (Nat.le_trans (Nat.le_add_left ..) h)),
    Nat.mod_eq_of_lt (Nat.lt_of_lt_of_le (Nat.add_lt_add_left ht _) h)]

/-- chunk length of both rotation loops: neither chunk crosses a word boundary nor `len` -/
theorem fit_rot (hw : 0 < w) {q p len l : Nat} (hq : q < len) (hp : p < len)
    (hl : l = min (min (min (w - q % w) (w - p % w)) (len - q)) (len - p)) :
    (q % w + l ≤ w ∧ p % w + l ≤ w) ∧ q + l ≤ len ∧ p + l ≤ len := by
  subst hl
  exact ⟨fit_up hw (Nat.le_trans (Nat.min_le_left ..) (Nat.min_le_left ..)),
    Nat.add_le_of_le_sub' (Nat.le_of_lt hq) (Nat.le_trans (Nat.min_le_left ..) (Nat.min_le_right ..)),
    Nat.add_le_of_le_sub' (Nat.le_of_lt hp) (Nat.min_le_right ..)⟩

@[simp] theorem Raw.rotlLoop_size (old new : Array (BitVec w)) (rot length oldIdx : Nat) :
    (Raw.rotlLoop old new rot length oldIdx).size = new.size := by
  fun_induction Raw.rotlLoop old new rot length oldIdx with
  | case1 new oldIdx hlt newIdx l ih => rw [ih, size_orBits]
  | case2 new oldIdx hlt => rfl

theorem Raw.rotlLoop_spec (hw : 0 < w) (old new : Array (BitVec w)) (rot len n : Nat)
    (hcap : len ≤ new.size * w) (i : Nat) :
    bitAt (Raw.rotlLoop old new rot len n) i = true ↔
      (bitAt new i = true ∨ ∃ j, n ≤ j ∧ j < len ∧ (j + rot) % len = i ∧ bitAt old j = true) := by
  fun_induction Raw.rotlLoop old new rot len n with
  | case1 new n hlt q l ih =>
    have hql : q < len := Nat.mod_lt _ (Nat.zero_lt_of_lt hlt.1)
    obtain ⟨⟨hq, hp⟩, hb1, hb2⟩ := fit_rot hw (q := q) (p := n) (l := l) hql hlt.1 rfl
    have hstep : ∀ t, t < l → (n + t + rot) % len = q + t := fun t ht => add_mod_step hb1 ht
    rw [ih (by rw [size_orBits]; exact hcap), bitAt_orBits_readBits hw new old q n l i (fun i => n + (i - q)) hq hp
        (Nat.lt_of_lt_of_le hql hcap) (fun t _ => by rw [Nat.add_sub_cancel_left]),
      Bool.or_eq_true, Bool.and_eq_true, decide_eq_true_eq, or_assoc]
    -- left: `new`, the chunk `[q, q + l)` OR-ed in now, the `j ≥ n + l` of the rounds to come; right: `new`, the `j ≥ n`.
    -- By `hstep` the chunk is the part `j = n + t ∈ [n, n + l)` of the right-hand `∃`, landing at `i = q + t`.
    refine or_congr Iff.rfl ⟨?_, ?_⟩
    · rintro (⟨⟨hqi, hiq⟩, hbit⟩ | ⟨j, hnl, hjlen, hji, hbit⟩)
      · -- a bit of the chunk is source bit `n + t`
        obtain ⟨t, rfl⟩ := Nat.exists_eq_add_of_le hqi
        have ht := Nat.lt_of_add_lt_add_left hiq
        rw [Nat.add_sub_cancel_left] at hbit
        exact ⟨n + t, Nat.le_add_right n t, Nat.lt_of_lt_of_le (Nat.add_lt_add_left ht n) hb2, hstep t ht, hbit⟩
      · exact ⟨j, Nat.le_trans (Nat.le_add_right n l) hnl, hjlen, hji, hbit⟩
    · rintro ⟨j, hnj, hjlen, hji, hbit⟩
      by_cases hj : j < n + l
      · -- a source bit `n + t` of this round lies in the chunk
        obtain ⟨t, rfl⟩ := Nat.exists_eq_add_of_le hnj
        have ht := Nat.lt_of_add_lt_add_left hj
        rw [hstep t ht] at hji
        subst hji
        exact Or.inl ⟨⟨Nat.le_add_right q t, Nat.add_lt_add_left ht q⟩, by rw [Nat.add_sub_cancel_left]; exact hbit⟩
      · exact Or.inr ⟨j, Nat.not_lt.mp hj, hjlen, hji, hbit⟩
  | case2 new n hlt =>
    exact ⟨Or.inl, fun h => h.elim id fun ⟨j, j1, j2, _⟩ => absurd ⟨Nat.lt_of_le_of_lt j1 j2, hw⟩ hlt⟩

theorem Raw.rotl_length (s : Raw w) (k : Nat) : (s.rotl k).length = s.length := rfl

theorem Raw.rotl_size (s : Raw w) (k : Nat) : (s.rotl k).data.size = s.data.size := by
  unfold Raw.rotl
  simp only [Raw.rotlLoop_size, Array.size_replicate]

theorem Raw.rotl_bit_iff (s : Raw w) (hw : 0 < w) (h : s.Inv) (k i : Nat) :
    bitAt (s.rotl k).data i = true ↔
      ∃ j, j < s.length ∧ (j + k) % s.length = i ∧ bitAt s.data j = true := by
  rw [Raw.rotl, Raw.rotlLoop_spec hw _ _ _ _ _ (by rw [Array.size_replicate]; exact h.1),
    bitAt_replicate_zero]
  simp

theorem Raw.rotl_bits (s : Raw w) (hw : 0 < w) (h : s.Inv) (k i : Nat) (hi : i < s.length) :
    bitAt (s.rotl k).data ((i + k) % s.length) = bitAt s.data i := by
  rw [Bool.eq_iff_iff, Raw.rotl_bit_iff s hw h]
  constructor
  · rintro ⟨j, h1, h2, h3⟩
    obtain rfl := add_mod_inj hi h1 h2
    exact h3
  · intro h3; exact ⟨i, hi, rfl, h3⟩

theorem Raw.rotl_high (s : Raw w) (hw : 0 < w) (h : s.Inv) (k i : Nat) (hi : s.length ≤ i) :
    bitAt (s.rotl k).data i = false := by
  rw [Bool.eq_false_iff]
  intro ht
  obtain ⟨j, h1, h2, _⟩ := (Raw.rotl_bit_iff s hw h k i).mp ht
  exact Nat.not_le_of_lt (h2 ▸ Nat.mod_lt (j + k) (Nat.zero_lt_of_lt h1)) hi

theorem Raw.rotl_inv (s : Raw w) (hw : 0 < w) (h : s.Inv) (k : Nat) : (s.rotl k).Inv :=
  ⟨by rw [Raw.rotl_size, Raw.rotl_length]; exact h.1, Raw.rotl_high s hw h k⟩

theorem Raw.rotl_data_of_length_zero (s : Raw w) (k : Nat) (h0 : s.length = 0) :
    (s.rotl k).data = Array.replicate s.data.size 0#w := by
  unfold Raw.rotl
  rw [Raw.rotlLoop, h0, dif_neg fun c => Nat.not_lt_zero _ c.1]

@[simp] theorem Raw.rotrLoop_size (old new : Array (BitVec w)) (rot length newIdx : Nat) :
    (Raw.rotrLoop old new rot length newIdx).size = new.size := by
  fun_induction Raw.rotrLoop old new rot length newIdx with
  | case1 new newIdx hlt oldIdx l ih => rw [ih, size_orBits]
  | case2 new newIdx hlt => rfl

theorem Raw.rotrLoop_spec (hw : 0 < w) (old new : Array (BitVec w)) (rot len n : Nat)
    (hcap : len ≤ new.size * w) (i : Nat) :
    bitAt (Raw.rotrLoop old new rot len n) i =
      (bitAt new i || (decide (n ≤ i ∧ i < len) && bitAt old ((i + rot) % len))) := by
  fun_induction Raw.rotrLoop old new rot len n with
  | case1 new n hlt p l ih =>
    obtain ⟨⟨hq, hp⟩, hb1, hb2⟩ :=
      fit_rot hw (q := n) (p := p) (l := l) hlt.1 (Nat.mod_lt _ (Nat.zero_lt_of_lt hlt.1)) rfl
    have hstep : ∀ t, t < l → (n + t + rot) % len = p + t := fun t ht => add_mod_step hb2 ht
    rw [ih (by rw [size_orBits]; exact hcap),
      bitAt_orBits_readBits hw new old n p l i (fun i => (i + rot) % len) hq hp (Nat.lt_of_lt_of_le hlt.1 hcap) hstep,
      Bool.or_assoc, ← Bool.and_or_distrib_right, decide_range_or n (n + l) len i (Nat.le_add_right n l) hb1]
  | case2 new n hlt =>
    rw [decide_eq_false (range_empty (Nat.le_of_not_lt fun c => hlt ⟨c, hw⟩)), Bool.false_and, Bool.or_false]

theorem Raw.rotr_length (s : Raw w) (k : Nat) : (s.rotr k).length = s.length := rfl

theorem Raw.rotr_size (s : Raw w) (k : Nat) : (s.rotr k).data.size = s.data.size := by
  unfold Raw.rotr
  simp only [Raw.rotrLoop_size, Array.size_replicate]

theorem Raw.rotr_bit_eq (s : Raw w) (hw : 0 < w) (h : s.Inv) (k i : Nat) :
    bitAt (s.rotr k).data i = (decide (i < s.length) && bitAt s.data ((i + k) % s.length)) := by
  rw [Raw.rotr, Raw.rotrLoop_spec hw _ _ _ _ _ (by rw [Array.size_replicate]; exact h.1),
    bitAt_replicate_zero, Bool.false_or, decide_eq_decide.mpr (and_iff_right (Nat.zero_le i))]

theorem Raw.rotr_bits (s : Raw w) (hw : 0 < w) (h : s.Inv) (k i : Nat) (hi : i < s.length) :
    bitAt (s.rotr k).data i = bitAt s.data ((i + k) % s.length) := by
  rw [Raw.rotr_bit_eq s hw h, decide_eq_true hi, Bool.true_and]

theorem Raw.rotr_inv (s : Raw w) (hw : 0 < w) (h : s.Inv) (k : Nat) : (s.rotr k).Inv :=
  ⟨by rw [Raw.rotr_size, Raw.rotr_length]; exact h.1, fun i hi => by
    rw [Raw.rotr_bit_eq s hw h, decide_eq_false (Nat.not_lt.mpr (show s.length ≤ i from hi)), Bool.false_and]⟩

theorem Raw.rotr_data_of_length_zero (s : Raw w) (k : Nat) (h0 : s.length = 0) :
    (s.rotr k).data = Array.replicate s.data.size 0#w := by
  unfold Raw.rotr
  rw [Raw.rotrLoop, h0, dif_neg fun c => Nat.not_lt_zero _ c.1]

theorem Raw.rotr_refines (s : Raw w) (hw : 0 < w) (h : s.Inv) (k : Nat) (hk : k ≤ s.length) :
    (s.rotr k).Inv ∧ (s.rotr k).abs = s.abs.rotr k :=
  ⟨Raw.rotr_inv s hw h k, BV.ext_bits (BV.rotr_len s.abs k).symm fun i => by
    rw [Raw.abs_bit _ _ hw, Raw.rotr_bit_eq s hw h, (BV.isRot_rotr s.abs k (h.wf hw) hk).2, Raw.abs_bit _ _ hw]; rfl⟩

theorem Raw.rotl_bit_eq (s : Raw w) (hw : 0 < w) (h : s.Inv) (k i : Nat) (hk : k ≤ s.length) :
    bitAt (s.rotl k).data i = bitAt (s.rotr (s.length - k)).data i := by
  rw [Raw.rotr_bit_eq s hw h]
  by_cases hi : i < s.length
  · -- `rotl k` sends the bit `(i + (length - k)) % length` that `rotr (length - k)` reads back to `i`
    rw [decide_eq_true hi, Bool.true_and,
      ← Raw.rotl_bits s hw h k _ (Nat.mod_lt _ (Nat.zero_lt_of_lt hi)), Nat.mod_add_mod,
      Nat.add_assoc, Nat.sub_add_cancel hk, Nat.add_mod_right, Nat.mod_eq_of_lt hi]
  · rw [decide_eq_false hi, Bool.false_and, Raw.rotl_high s hw h k i (Nat.not_lt.mp hi)]

theorem Raw.rotl_refines (s : Raw w) (hw : 0 < w) (h : s.Inv) (k : Nat) (hk : k ≤ s.length) :
    (s.rotl k).Inv ∧ (s.rotl k).abs = s.abs.rotl k := by
  refine ⟨Raw.rotl_inv s hw h k, ?_⟩
  rw [BV.rotl_eq_rotr _ _ hk, Raw.abs_len, ← (Raw.rotr_refines s hw h _ (Nat.sub_le _ _)).2]
  exact Raw.abs_eq_of_bits _ _ hw hw rfl (fun i => Raw.rotl_bit_eq s hw h k i hk)

end Bva
