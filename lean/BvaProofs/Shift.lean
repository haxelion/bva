import BvaProofs.Base
/-!
# Shifts

Each chunk loop gets a closed equation for the bits of its result in terms of the array it is given (by `fun_induction`,
no invariant).  The word loops of `shlIn` / `shrIn` carry an invariant indexed by the bit reached (`ShlInInv`, `ShrInInv`),
so that the partial top word is a step like the others.
-/
namespace Bva
variable {w : Nat}

namespace Raw

@[simp] theorem size_shrLoop1 (ws : Array (BitVec w)) (k len n : Nat) :
    (shrLoop1 ws k len n).1.size = ws.size := by
  fun_induction shrLoop1 ws k len n with
  | case1 ws n _ _ _ ih => rw [ih, size_writeBits]
  | case2 => rfl

theorem shrLoop1_spec (hw : 0 < w) (ws : Array (BitVec w)) (k len n : Nat) (hcap : len ≤ ws.size * w) :
    n ≤ (shrLoop1 ws k len n).2 ∧ len ≤ (shrLoop1 ws k len n).2 + k ∧
    ∀ i, bitAt (shrLoop1 ws k len n).1 i =
      if n ≤ i ∧ i < (shrLoop1 ws k len n).2 then bitAt ws (i + k) else bitAt ws i := by
  fun_induction shrLoop1 ws k len n with
  | case1 ws n hlt p l ih =>
    obtain ⟨hq, hp⟩ := fit_up hw (a := n) (b := p) (Nat.le_refl l)
    have cp := fun i => bitAt_writeBits_readBits hw ws ws n p l i (· + k) hq hp
      (Nat.lt_of_le_of_lt (Nat.le_add_right n k) (Nat.lt_of_lt_of_le hlt.1 hcap)) fun t _ => Nat.add_right_comm n t k
    obtain ⟨s1, s2, s3⟩ := ih (by rw [size_writeBits]; exact hcap)
    -- this round copies `[n, n + l)` (`cp`); the rounds to come copy `[n + l, m)` (`s3`), reading at `i + k ≥ n + l`,
    -- above the chunk just written
    exact ⟨Nat.le_trans (Nat.le_add_right n l) s1, s2, bitAt_copy_copy cp s3
      (fun i h c => Nat.not_le_of_lt c.2 (Nat.le_trans h.1 (Nat.le_add_right i k)))
      fun i => Or.comm.trans (range_or n (n + l) _ i (Nat.le_add_right n l) s1)⟩
  | case2 ws n hlt =>
    exact ⟨Nat.le_refl _, Nat.le_of_not_lt fun c => hlt ⟨c, hw⟩,
      fun i => (if_neg (range_empty (Nat.le_refl n))).symm⟩

theorem shrLoop2_spec (hw : 0 < w) (ws : Array (BitVec w)) (len n : Nat) (hcap : len ≤ ws.size * w) :
    (shrLoop2 ws len n).size = ws.size ∧
    ∃ m, len ≤ m ∧ n ≤ m ∧
      ∀ i, bitAt (shrLoop2 ws len n) i = (!decide (n ≤ i ∧ i < m) && bitAt ws i) := by
  fun_induction shrLoop2 ws len n with
  | case1 ws n hlt l ih =>
    have hq : n % w + l ≤ w := Nat.le_of_eq (Nat.add_sub_cancel' (Nat.le_of_lt (Nat.mod_lt n hw)))
    obtain ⟨s0, m, s1, s2, s3⟩ := ih (by rw [size_clearBits]; exact hcap)
    refine ⟨by rw [s0, size_clearBits], m, s1, Nat.le_trans (Nat.le_add_right n l) s2, fun i => ?_⟩
    rw [s3, bitAt_clearBits ws n l i hw hq (Nat.lt_of_lt_of_le hlt.1 hcap), ← Bool.and_assoc, ← Bool.not_or,
      Bool.or_comm, decide_range_or n (n + l) m i (Nat.le_add_right n l) s2]
  | case2 ws n hlt =>
    exact ⟨rfl, n, Nat.le_of_not_lt fun c => hlt ⟨c, hw⟩, Nat.le_refl _, fun i => by
      rw [decide_eq_false (range_empty (Nat.le_refl n))]; rfl⟩

theorem shrAssign_length (s : Raw w) (k : Nat) : (s.shrAssign k).length = s.length := by
  unfold shrAssign; split <;> rfl

theorem shrAssign_size (s : Raw w) (hw : 0 < w) (h : s.Inv) (k : Nat) :
    (s.shrAssign k).data.size = s.data.size := by
  unfold shrAssign
  split
  · rfl
  · exact ((shrLoop2_spec hw _ _ _ (by rw [size_shrLoop1]; exact h.1)).1).trans (size_shrLoop1 ..)

theorem shrAssign_bits (s : Raw w) (hw : 0 < w) (h : s.Inv) (k i : Nat) :
    bitAt (s.shrAssign k).data i = (decide (i + k < s.length) && bitAt s.data (i + k)) := by
  unfold shrAssign
  split
  · rename_i hk
    subst hk
    exact h.bitAt_eq_of fun _ => rfl
  · obtain ⟨_, a2, a3⟩ := shrLoop1_spec hw s.data k s.length 0 h.1
    obtain ⟨_, m, b1, b2, b3⟩ := shrLoop2_spec hw (shrLoop1 s.data k s.length 0).1 s.length
      (shrLoop1 s.data k s.length 0).2 (by rw [size_shrLoop1]; exact h.1)
    rw [b3, a3]
    generalize (shrLoop1 s.data k s.length 0).2 = n at a2 b2 ⊢
    by_cases hin : i < n
    · -- copied by the first loop
      rw [if_pos ⟨Nat.zero_le i, hin⟩, decide_eq_false fun c => Nat.not_le_of_lt hin c.1, Bool.not_false, Bool.true_and]
      exact h.bitAt_eq_of fun _ => rfl
    · -- cleared by the second loop, or beyond `length`
      have hle := Nat.not_lt.mp hin
      rw [if_neg fun c => hin c.2, decide_eq_false (Nat.not_lt.mpr (Nat.le_trans a2 (Nat.add_le_add_right hle k))),
        Bool.false_and]
      by_cases him : i < m
      · rw [decide_eq_true ⟨hle, him⟩]; rfl
      · rw [h.2 i (Nat.le_trans b1 (Nat.not_lt.mp him)), Bool.and_false]

theorem refines_shr (s t : Raw w) (hw : 0 < w) (h : s.Inv) (k : Nat) (hlen : t.length = s.length)
    (hcap : s.length ≤ t.data.size * w)
    (hb : ∀ i, bitAt t.data i = (decide (i + k < s.length) && bitAt s.data (i + k))) :
    t.Inv ∧ t.abs = s.abs.shr k := by
  refine Raw.refines_of_bits t _ hw (BV.shr_wf _ k (h.wf hw)) (hlen.trans (BV.shr_len s.abs k).symm) (hlen ▸ hcap) fun i => ?_
  rw [hb, BV.shr_bit _ (h.wf hw), Raw.abs_bit _ _ hw, Raw.abs_len]

theorem shrAssign_refines (s : Raw w) (hw : 0 < w) (h : s.Inv) (k : Nat) :
    (s.shrAssign k).Inv ∧ (s.shrAssign k).abs = s.abs.shr k :=
  refines_shr s _ hw h k (shrAssign_length s k) (by rw [shrAssign_size s hw h k]; exact h.1)
    (shrAssign_bits s hw h k)

@[simp] theorem size_shlLoop1 (ws : Array (BitVec w)) (k n : Nat) :
    (shlLoop1 ws k n).1.size = ws.size := by
  fun_induction shlLoop1 ws k n with
  | case1 ws n _ _ _ ih => rw [ih, size_writeBits]
  | case2 => rfl

theorem shlLoop1_snd (hw : 0 < w) (ws : Array (BitVec w)) (k n : Nat) : (shlLoop1 ws k n).2 = min k n := by
  fun_induction shlLoop1 ws k n with
  | case1 ws n hlt l n' ih =>
    rw [ih, Nat.min_eq_left (fit_down hw (l := l) hlt rfl).1.2.2, Nat.min_eq_left (Nat.le_of_lt hlt)]
  | case2 ws n hlt => exact (Nat.min_eq_right (Nat.not_lt.mp hlt)).symm

theorem shlLoop1_spec (hw : 0 < w) (ws : Array (BitVec w)) (k n : Nat) (hcap : n ≤ ws.size * w) :
    ∀ i, bitAt (shlLoop1 ws k n).1 i = if k ≤ i ∧ i < n then bitAt ws (i - k) else bitAt ws i := by
  fun_induction shlLoop1 ws k n with
  | case1 ws n hlt l n' ih =>
    obtain ⟨⟨hl, (hn' : n' + l = n), (hk : k ≤ n')⟩, (hq : n' % w + l ≤ w), (hp : (n' - k) % w + l ≤ w)⟩ :=
      fit_down hw (l := l) hlt rfl
    clear_value n' l
    subst hn'
    have hin : n' < ws.size * w := Nat.lt_of_lt_of_le (Nat.lt_add_of_pos_right hl) hcap
    have hsz : n' ≤ (writeBits ws n' l (readBits ws (n' - k) l)).size * w := by
      rw [size_writeBits]; exact Nat.le_of_lt hin
    have cp := fun i => bitAt_writeBits_readBits hw ws ws n' (n' - k) l i (· - k) hq hp hin
      fun t _ => Nat.sub_add_comm hk
    -- this round copies `[n', n' + l)` (`cp`); the rounds to come copy `[k, n')` (`ih`), reading at `i - k < n'`,
    -- below the chunk just written
    exact bitAt_copy_copy cp (ih hsz) (fun i h c => Nat.not_le_of_lt (Nat.lt_of_le_of_lt (Nat.sub_le i k) h.2) c.1)
      fun i => range_or k n' (n' + l) i hk (Nat.le_add_right n' l)
  | case2 ws n hlt => exact fun i => (if_neg (range_empty (Nat.le_of_not_lt hlt))).symm

theorem shlLoop2_spec (hw : 0 < w) (ws : Array (BitVec w)) (n : Nat) (hcap : n ≤ ws.size * w) :
    (shlLoop2 ws n).size = ws.size ∧
    ∀ i, bitAt (shlLoop2 ws n) i = (!decide (0 ≤ i ∧ i < n) && bitAt ws i) := by
  fun_induction shlLoop2 ws n with
  | case1 ws n hlt l ih =>
    obtain ⟨(hln : l ≤ n), (hq : (n - l) % w + l ≤ w)⟩ := sub_fit hw hlt (Nat.succ_pos _) (Nat.le_refl l)
    have hl : 0 < l := Nat.succ_pos _
    clear_value l
    obtain ⟨n', rfl⟩ := Nat.exists_eq_add_of_le' hln
    rw [Nat.add_sub_cancel] at ih hq ⊢
    have hin : n' < ws.size * w := Nat.lt_of_lt_of_le (Nat.lt_add_of_pos_right hl) hcap
    obtain ⟨s0, s1⟩ := ih (by rw [size_clearBits]; exact Nat.le_of_lt hin)
    refine ⟨by rw [s0, size_clearBits], fun i => ?_⟩
    rw [s1, bitAt_clearBits ws n' l i hw hq hin, ← Bool.and_assoc, ← Bool.not_or,
      decide_range_or 0 n' (n' + l) i (Nat.zero_le n') (Nat.le_add_right n' l)]
  | case2 ws n hlt =>
    exact ⟨rfl, fun i => by rw [decide_eq_false (range_empty (Nat.le_of_not_lt hlt))]; rfl⟩

theorem shlAssign_length (s : Raw w) (k : Nat) : (s.shlAssign k).length = s.length := by
  unfold shlAssign; split <;> rfl

theorem shlAssign_size (s : Raw w) (hw : 0 < w) (h : s.Inv) (k : Nat) :
    (s.shlAssign k).data.size = s.data.size := by
  unfold shlAssign
  split
  · rfl
  · exact ((shlLoop2_spec hw _ _ (by
      rw [size_shlLoop1, shlLoop1_snd hw]; exact Nat.le_trans (Nat.min_le_right ..) h.1)).1).trans
      (size_shlLoop1 ..)

theorem shlAssign_bits (s : Raw w) (hw : 0 < w) (h : s.Inv) (k i : Nat) :
    bitAt (s.shlAssign k).data i = (decide (k ≤ i ∧ i < s.length) && bitAt s.data (i - k)) := by
  unfold shlAssign
  split
  · rename_i hk
    subst hk
    exact (h.bitAt_eq_of fun _ => rfl).trans (gate_congr ⟨fun c => ⟨Nat.zero_le i, c⟩, And.right⟩ fun _ => rfl)
  · have hm := Nat.le_trans (Nat.min_le_right k s.length) h.1
    rw [(shlLoop2_spec hw _ _ (by rw [size_shlLoop1, shlLoop1_snd hw]; exact hm)).2,
      shlLoop1_spec hw _ _ _ h.1, shlLoop1_snd hw]
    by_cases h1 : k ≤ i ∧ i < s.length
    · -- copied by the first loop
      rw [if_pos h1, decide_eq_true h1,
        decide_eq_false fun c => Nat.not_le_of_lt c.2 (Nat.le_trans (Nat.min_le_left ..) h1.1)]
      rfl
    · -- cleared by the second loop, or beyond `length`
      rw [if_neg h1, decide_eq_false h1, Bool.false_and]
      by_cases h2 : i < k ∧ i < s.length
      · rw [decide_eq_true ⟨Nat.zero_le i, Nat.lt_min.mpr h2⟩]; rfl
      · -- below `length`, `i` would be below `k` (`h2`) or from `k` up (`h1`)
        rw [h.2 i (Nat.le_of_not_lt fun c => (Nat.lt_or_ge i k).elim (fun a => h2 ⟨a, c⟩) fun a => h1 ⟨a, c⟩),
          Bool.and_false]

theorem refines_shl (s t : Raw w) (hw : 0 < w) (k : Nat) (hlen : t.length = s.length)
    (hcap : s.length ≤ t.data.size * w)
    (hb : ∀ i, bitAt t.data i = (decide (k ≤ i ∧ i < s.length) && bitAt s.data (i - k))) :
    t.Inv ∧ t.abs = s.abs.shl k := by
  refine Raw.refines_of_bits t _ hw (BV.shl_wf _ k) (hlen.trans (BV.shl_len s.abs k).symm) (hlen ▸ hcap) fun i => ?_
  rw [hb, BV.shl_bit, Raw.abs_bit _ _ hw, Raw.abs_len]

theorem shlAssign_refines (s : Raw w) (hw : 0 < w) (h : s.Inv) (k : Nat) :
    (s.shlAssign k).Inv ∧ (s.shlAssign k).abs = s.abs.shl k :=
  refines_shl s _ hw k (shlAssign_length s k) (by rw [shlAssign_size s hw h k]; exact h.1)
    (shlAssign_bits s hw h k)

end Raw

/-- a word holding bits `B ..` of `f`, shifted up by one with the bit below them (`c0` at the very bottom) entering at
bit 0, holds bits `B ..` of `f` moved up by one -/
theorem getLsbD_shl1_or (x : BitVec w) (c c0 : Bool) (f : Nat → Bool) (B m : Nat) (hm : m < w)
    (hx : ∀ t, t < w → x.getLsbD t = f (B + t)) (hc : c = if B = 0 then c0 else f (B - 1)) :
    ((x <<< 1) ||| b2w w c).getLsbD m = if B + m = 0 then c0 else f (B + m - 1) := by
  rw [BitVec.getLsbD_or, getLsbD_shiftLeft_of_lt _ _ _ hm, getLsbD_b2w]
  cases m with
  | zero =>
    rw [hc, decide_eq_false (Nat.not_succ_le_zero 0), Bool.false_and, Bool.false_or,
      decide_eq_true (Nat.zero_lt_of_lt hm), decide_eq_true rfl, Bool.true_and, Bool.true_and]
    rfl
  | succ m =>
    rw [decide_eq_true (Nat.le_add_left 1 m), Nat.add_sub_cancel, hx m (Nat.lt_of_succ_lt hm),
      decide_eq_false (Nat.succ_ne_zero m), if_neg (show ¬ B + (m + 1) = 0 from Nat.succ_ne_zero _),
      Bool.and_false, Bool.false_and, Bool.or_false, Bool.true_and]
    rfl

/-- `shlIn` when the bits below `L` are done.  With `g 0 = b`, `g (j + 1) = bitAt s.data j` (the bits of `s` with
`b` pushed in below): done bits are `g j`, the others untouched, and the carry is `g L`, so neither the first word
nor the partial top word needs a case of its own. -/
def ShlInInv (s : Raw w) (b : Bool) (L : Nat) (p : Array (BitVec w) × Bool) : Prop :=
  p.1.size = s.data.size ∧
  (∀ j, bitAt p.1 j = if j < L then (if j = 0 then b else bitAt s.data (j - 1)) else bitAt s.data j) ∧
  p.2 = if L = 0 then b else bitAt s.data (L - 1)

/-- word `k`, of which `keep` bits are live, is shifted up with the carry entering at its bit 0 -/
theorem ShlInInv.step {s : Raw w} {b c : Bool} {k keep : Nat} {d : Array (BitVec w)}
    (hw : 0 < w) (h : ShlInInv s b (k * w) (d, c)) (hk : k < s.data.size) (h0 : 0 < keep) (hle : keep ≤ w)
    (hz : ∀ j, k * w + keep ≤ j → j < k * w + w → bitAt s.data j = false) :
    ShlInInv s b (k * w + keep)
      (d.setIfInBounds k (((wd d k <<< 1) ||| b2w w c) &&& mask w keep), ((wd d k >>> (keep - 1)) &&& 1#w) != 0#w) := by
  obtain ⟨hsize, hbits, hcarry⟩ := h
  -- the word as found is not done yet: it holds bits `k * w ..` of `s`
  have hx : ∀ t, t < w → (wd d k).getLsbD t = bitAt s.data (k * w + t) := fun t ht => by
    rw [getLsbD_wd _ _ _ ht, hbits, if_neg (Nat.not_lt.mpr (Nat.le_add_right ..))]
  refine ⟨by rw [Array.size_setIfInBounds, hsize],
    bitAt_setWord_of hw (hsize ▸ hk) hbits (fun m hm => ?_) (fun j hj => ?_), ?_⟩
  · -- bit `m` of the new word: done (`getLsbD_shl1_or`) below `keep`; masked off above, where `s` is zero (`hz`)
    rw [BitVec.getLsbD_and, getLsbD_shl1_or _ _ b _ _ m hm hx hcarry, getLsbD_mask, decide_eq_true hm, Bool.true_and]
    by_cases hlt : m < keep
    · rw [decide_eq_true hlt, Bool.and_true, if_pos (Nat.add_lt_add_left hlt _)]
    · rw [decide_eq_false hlt, Bool.and_false, if_neg (fun c => hlt (Nat.lt_of_add_lt_add_left c)),
        hz _ (Nat.add_le_add_left (Nat.not_lt.mp hlt) _) (Nat.add_lt_add_left hm _)]
  · -- outside word `k`, below `k * w + keep` is below `k * w`
    exact ⟨fun c => Nat.lt_of_not_le fun c' => hj ⟨c', Nat.lt_of_lt_of_le c (Nat.add_le_add_left hle _)⟩,
      fun c => Nat.lt_of_lt_of_le c (Nat.le_add_right ..)⟩
  · -- the carry out is bit `keep - 1` of the word as found
    dsimp only
    rw [and_one_ne_zero, hx _ (Nat.lt_of_lt_of_le (Nat.sub_lt h0 Nat.one_pos) hle),
      if_neg (Nat.ne_of_gt (Nat.add_pos_right _ h0)), Nat.add_sub_assoc h0]

theorem Raw.shlIn_inv (s : Raw w) (hw : 0 < w) (h : s.Inv) (b : Bool) :
    (s.shlIn b).1.length = s.length ∧ ShlInInv s b s.length ((s.shlIn b).1.data, (s.shlIn b).2) := by
  have eL := Nat.div_add_mod' s.length w
  unfold Raw.shlIn
  generalize hq : forRange 0 (s.length / w) _ (s.data, b) = q
  have inv : ShlInInv s b (s.length / w * w) q := by
    rw [← hq]
    refine forRange_inv (fun n => ShlInInv s b (n * w)) _ 0 _ (Nat.zero_le _) (fun n ⟨d, c⟩ _ hn hP => ?_) _
      ⟨rfl, fun j => by rw [Nat.zero_mul, if_neg (Nat.not_lt_zero j)], by rw [Nat.zero_mul, if_pos rfl]⟩
    have hn' : n < s.data.size :=
      Nat.lt_of_lt_of_le hn (Nat.div_le_of_le_mul (Nat.mul_comm .. ▸ h.1))
    have := hP.step hw hn' hw (Nat.le_refl w) fun j h1 h2 => absurd h2 (Nat.not_lt.mpr h1)
    rwa [mask_full, ← Nat.succ_mul] at this
  obtain ⟨d, c⟩ := q
  dsimp only
  by_cases hr : s.length % w ≠ 0
  · -- the partial top word: `length % w` live bits, and `s` is zero from `length` on
    have hr0 := Nat.pos_of_ne_zero hr
    have hk : s.length / w < s.data.size := Nat.lt_of_mul_lt_mul_right (a := w)
      (Nat.lt_of_lt_of_le (Nat.lt_of_lt_of_eq (Nat.lt_add_of_pos_right hr0) eL) h.1)
    have := inv.step hw hk hr0 (Nat.le_of_lt (Nat.mod_lt _ hw)) fun j h1 _ => h.2 j (eL ▸ h1)
    rw [eL] at this
    rw [if_pos hr]
    exact ⟨rfl, this⟩
  · rw [Nat.div_mul_cancel (Nat.dvd_of_mod_eq_zero (Decidable.not_not.mp hr))] at inv
    rw [if_neg hr]
    exact ⟨rfl, inv⟩

theorem Raw.shlIn_bits (s : Raw w) (hw : 0 < w) (h : s.Inv) (b : Bool) :
    (s.shlIn b).1.length = s.length ∧ (s.shlIn b).1.data.size = s.data.size ∧
    (∀ i, bitAt (s.shlIn b).1.data i =
      (decide (i < s.length) && (if i = 0 then b else bitAt s.data (i - 1)))) ∧
    (s.shlIn b).2 = (if s.length = 0 then b else bitAt s.data (s.length - 1)) := by
  obtain ⟨hl, hs, hb, hc⟩ := Raw.shlIn_inv s hw h b
  dsimp only at hs hb hc
  refine ⟨hl, hs, fun i => (hb i).trans ?_, hc⟩
  by_cases hi : i < s.length
  · rw [if_pos hi, decide_eq_true hi, Bool.true_and]
  · rw [if_neg hi, h.2 i (Nat.not_lt.mp hi), decide_eq_false hi, Bool.false_and]

theorem Raw.shlIn_refines (s : Raw w) (hw : 0 < w) (h : s.Inv) (b : Bool) :
    ((s.shlIn b).1).Inv ∧ ((s.shlIn b).1.abs, (s.shlIn b).2) = s.abs.shlIn b := by
  obtain ⟨h1, h2, h3, h4⟩ := Raw.shlIn_bits s hw h b
  have hr := Raw.refines_of_bits (s.shlIn b).1 (s.abs.shlIn b).1 hw (BV.shlIn_wf _ b (h.wf hw))
    (h1.trans (BV.shlIn_len s.abs b).symm) (by rw [h1, h2]; exact h.1) fun i => by
      rw [h3 i, BV.shlIn_bit _ (h.wf hw), Raw.abs_bit _ _ hw, Raw.abs_len]
  exact ⟨hr.1, Prod.ext hr.2 (by rw [h4, BV.shlIn_snd, Raw.abs_bit _ _ hw, Raw.abs_len])⟩

/-- a word whose lower `keep` bits are bits `B ..` of `f` and whose other bits are zero, shifted down by one with the
bit above them entering at its top live bit, holds bits `B + 1 ..` of `f` in its lower `keep` bits -/
theorem getLsbD_shr1_or (x : BitVec w) (c : Bool) (f : Nat → Bool) (B keep m : Nat) (h0 : 0 < keep) (hle : keep ≤ w)
    (hx : ∀ t, x.getLsbD t = (decide (t < keep) && f (B + t))) (hc : c = f (B + keep)) :
    ((x >>> 1) ||| (b2w w c <<< (keep - 1))).getLsbD m = (decide (m < keep) && f (B + (m + 1))) := by
  obtain ⟨r, rfl⟩ := Nat.exists_eq_add_one_of_ne_zero (Nat.ne_of_gt h0)
  rw [Nat.add_sub_cancel, BitVec.getLsbD_or, BitVec.getLsbD_shiftLeft, getLsbD_b2w, BitVec.getLsbD_ushiftRight,
    Nat.add_comm 1 m, hx, hc, decide_eq_true (Nat.zero_lt_of_lt hle), Bool.true_and]
  rcases Nat.lt_trichotomy m r with h | rfl | h
  · rw [decide_eq_true (Nat.succ_lt_succ h), decide_eq_true (Nat.lt_succ_of_lt h), decide_eq_true h]; simp
  · rw [decide_eq_false (Nat.lt_irrefl _), decide_eq_true (show m < w from hle), decide_eq_true (Nat.lt_succ_self m),
      Nat.sub_self]; simp
  · rw [decide_eq_false (Nat.not_lt.mpr (Nat.succ_le_succ (Nat.le_of_lt h))),
      decide_eq_false (Nat.not_lt.mpr (Nat.succ_le_of_lt h)), decide_eq_false (Nat.sub_ne_zero_of_lt h)]; simp

/-- `shrIn` when the bits from `L` up are done.  With `h len = b`, `h j = bitAt s.data j` otherwise
(the bits of `s` with `b` on top): done bits are `h (j + 1)`, the others untouched, and the carry is
`h L`.  At `L = len` this is the state at entry, so the partial top word is a step like the others. -/
def ShrInInv (s : Raw w) (b : Bool) (L : Nat) (p : Array (BitVec w) × Bool) : Prop :=
  p.1.size = s.data.size ∧
  (∀ j, bitAt p.1 j =
    if L ≤ j then (decide (j < s.length) && (if j + 1 = s.length then b else bitAt s.data (j + 1)))
    else bitAt s.data j) ∧
  p.2 = if L = s.length then b else bitAt s.data L

/-- word `a`, of which `keep` bits are live (what is above them in the word lies beyond `length`: `hz`), is shifted
down with the carry entering at its top live bit -/
theorem ShrInInv.step {s : Raw w} {b c : Bool} {a keep : Nat} {d : Array (BitVec w)}
    (hw : 0 < w) (hs : s.Inv) (h : ShrInInv s b (a * w + keep) (d, c)) (h0 : 0 < keep) (hle : keep ≤ w)
    (hlen : a * w + keep ≤ s.length) (hz : ∀ j, a * w + keep ≤ j → j < a * w + w → s.length ≤ j) :
    ShrInInv s b (a * w)
      (d.setIfInBounds a ((wd d a >>> 1) ||| (b2w w c <<< (keep - 1))), (wd d a &&& 1#w) != 0#w) := by
  obtain ⟨hsize, hbits, hcarry⟩ := h
  have hsz : a < d.size := hsize ▸ Nat.lt_of_mul_lt_mul_right (a := w) (calc
    a * w < a * w + keep := Nat.lt_add_of_pos_right h0
    _ ≤ s.length := hlen
    _ ≤ s.data.size * w := hs.1)
  -- the word as found: its live bits are those of `s` (they lie below `length`; the `if` is what `getLsbD_shr1_or`
  -- wants to see), and nothing is above them
  have hx : ∀ t, (wd d a).getLsbD t =
      (decide (t < keep) && if a * w + t = s.length then b else bitAt s.data (a * w + t)) := fun t => by
    rw [wd_chunks, hbits]
    by_cases hlt : t < keep
    · have hlt' := Nat.lt_of_lt_of_le (Nat.add_lt_add_left hlt (a * w)) hlen
      rw [decide_eq_true (Nat.lt_of_lt_of_le hlt hle), decide_eq_true hlt,
        if_neg (Nat.not_le.mpr (Nat.add_lt_add_left hlt _)), if_neg (Nat.ne_of_lt hlt')]
    · rw [decide_eq_false hlt, Bool.false_and, if_pos (Nat.add_le_add_left (Nat.not_lt.mp hlt) _)]
      by_cases htw : t < w
      · rw [decide_eq_false (Nat.not_lt.mpr (hz _ (Nat.add_le_add_left (Nat.not_lt.mp hlt) _)
          (Nat.add_lt_add_left htw _))), Bool.false_and, Bool.and_false]
      · rw [decide_eq_false htw, Bool.false_and]
  refine ⟨by rw [Array.size_setIfInBounds, hsize],
    bitAt_setWord_of hw hsz hbits (fun m hm => ?_) (fun j hj => ?_), ?_⟩
  · -- where it is live, which is below `length`, the new word holds the next bits of `s` with `b` on top
    rw [if_pos (Nat.le_add_right ..),
      getLsbD_shr1_or _ _ (fun j => if j = s.length then b else bitAt s.data j) _ _ m h0 hle hx hcarry, Nat.add_assoc]
    exact gate_congr ⟨fun c => Nat.lt_of_lt_of_le (Nat.add_lt_add_left c _) hlen, fun c => Nat.lt_of_not_le fun c' =>
      Nat.not_le_of_lt c (hz _ (Nat.add_le_add_left c' _) (Nat.add_lt_add_left hm _))⟩ fun _ => rfl
  · -- outside word `a`, from `a * w` up is from `a * w + keep` up
    exact ⟨fun c => Nat.le_trans (Nat.add_le_add_left hle _) (Nat.not_lt.mp fun c' => hj ⟨c, c'⟩),
      Nat.le_trans (Nat.le_add_right ..)⟩
  · -- the carry out is bit 0 of the word as found
    dsimp only
    rw [and_one_ne_zero', hx, decide_eq_true h0, Bool.true_and, Nat.add_zero]

theorem Raw.shrIn_inv (s : Raw w) (hw : 0 < w) (h : s.Inv) (b : Bool) :
    (s.shrIn b).1.length = s.length ∧ ShrInInv s b 0 ((s.shrIn b).1.data, (s.shrIn b).2) := by
  have eL := Nat.div_add_mod' s.length w
  have entry : ShrInInv s b s.length (s.data, b) := by
    refine ⟨rfl, fun j => ?_, (if_pos rfl).symm⟩
    by_cases hj : s.length ≤ j
    · rw [if_pos hj, h.2 j hj, decide_eq_false (Nat.not_lt.mpr hj), Bool.false_and]
    · rw [if_neg hj]
  unfold Raw.shrIn
  generalize ht : (if s.length % w ≠ 0 then _ else (s.data, b) : Array (BitVec w) × Bool) = t
  have top : ShrInInv s b (s.length / w * w) t := by
    rw [← ht]
    by_cases hr : s.length % w ≠ 0
    · rw [if_pos hr]
      exact ShrInInv.step hw h (by rw [eL]; exact entry) (Nat.pos_of_ne_zero hr) (Nat.le_of_lt (Nat.mod_lt _ hw))
        (Nat.le_of_eq eL) fun j h1 _ => eL ▸ h1
    · rw [if_neg hr, Nat.div_mul_cancel (Nat.dvd_of_mod_eq_zero (Decidable.not_not.mp hr))]; exact entry
  obtain ⟨d0, c0⟩ := t
  dsimp only
  generalize hq : forRangeRev 0 (s.length / w) _ (d0, c0) = q
  have inv : ShrInInv s b (0 * w) q := by
    rw [← hq]
    refine forRangeRev_inv (fun n => ShrInInv s b (n * w)) _ 0 _ (Nat.zero_le _) (fun n ⟨d, c⟩ _ hn hP => ?_) _ top
    have hlen := Nat.le_trans (Nat.mul_le_mul_right w (Nat.succ_le_of_lt hn)) (Nat.div_mul_le_self s.length w)
    rw [Nat.succ_mul] at hlen hP
    exact ShrInInv.step hw h hP hw (Nat.le_refl w) hlen fun j h1 h2 => absurd h2 (Nat.not_lt.mpr h1)
  rw [Nat.zero_mul] at inv
  exact ⟨rfl, inv⟩

theorem Raw.shrIn_bits (s : Raw w) (hw : 0 < w) (h : s.Inv) (b : Bool) :
    (s.shrIn b).1.length = s.length ∧ (s.shrIn b).1.data.size = s.data.size ∧
    (∀ i, bitAt (s.shrIn b).1.data i =
      (decide (i < s.length) && (if i + 1 = s.length then b else bitAt s.data (i + 1)))) ∧
    (s.shrIn b).2 = (if s.length = 0 then b else bitAt s.data 0) := by
  obtain ⟨hl, hs, hb, hc⟩ := Raw.shrIn_inv s hw h b
  dsimp only at hs hb hc
  refine ⟨hl, hs, fun i => (hb i).trans (if_pos (Nat.zero_le i)), hc.trans ?_⟩
  by_cases h0 : s.length = 0
  · rw [if_pos h0.symm, if_pos h0]
  · rw [if_neg (Ne.symm h0), if_neg h0]

theorem Raw.shrIn_refines (s : Raw w) (hw : 0 < w) (h : s.Inv) (b : Bool) :
    ((s.shrIn b).1).Inv ∧ ((s.shrIn b).1.abs, (s.shrIn b).2) = s.abs.shrIn b := by
  obtain ⟨h1, h2, h3, h4⟩ := Raw.shrIn_bits s hw h b
  have hr := Raw.refines_of_bits (s.shrIn b).1 (s.abs.shrIn b).1 hw (BV.shrIn_wf _ b (h.wf hw))
    (h1.trans (BV.shrIn_len s.abs b).symm) (by rw [h1, h2]; exact h.1) fun i => by
      rw [h3 i, BV.shrIn_bit _ (h.wf hw), Raw.abs_bit _ _ hw, Raw.abs_len]
  exact ⟨hr.1, Prod.ext hr.2 (by rw [h4, BV.shrIn_snd, Raw.abs_bit _ _ hw, Raw.abs_len])⟩

namespace Bvd

theorem le_size_fresh (n : Nat) : n ≤ (Array.replicate (capW n) 0#64).size * 64 := by
  rw [Array.size_replicate]; exact le_cap_mul _ (by decide)

@[simp] theorem size_shrRefLoop (old new : Array (BitVec 64)) (k len n : Nat) :
    (shrRefLoop old new k len n).size = new.size := by
  fun_induction shrRefLoop old new k len n with
  | case1 new n _ _ _ ih => rw [ih, size_orBits]
  | case2 => rfl

theorem shrRefLoop_spec (old new : Array (BitVec 64)) (k len n : Nat) (hcap : len ≤ new.size * 64) :
    ∃ m, n ≤ m ∧ len ≤ m + k ∧ ∀ i, bitAt (shrRefLoop old new k len n) i =
      (bitAt new i || (decide (n ≤ i ∧ i < m) && bitAt old (i + k))) := by
  fun_induction shrRefLoop old new k len n with
  | case1 new n hlt p l ih =>
    obtain ⟨hq, hp⟩ := fit_up (w := 64) (by decide) (a := n) (b := p) (Nat.le_refl l)
    obtain ⟨m, s1, s2, s3⟩ := ih (by rw [size_orBits]; exact hcap)
    refine ⟨m, Nat.le_trans (Nat.le_add_right n l) s1, s2, fun i => ?_⟩
    rw [s3, bitAt_orBits_readBits (by decide) new old n p l i (· + k) hq hp
        (Nat.lt_of_le_of_lt (Nat.le_add_right n k) (Nat.lt_of_lt_of_le hlt hcap)) fun t _ => Nat.add_right_comm n t k,
      Bool.or_assoc, ← Bool.and_or_distrib_right, decide_range_or n (n + l) m i (Nat.le_add_right n l) s1]
  | case2 new n hlt =>
    exact ⟨n, Nat.le_refl _, Nat.le_of_not_lt hlt, fun i => by
      rw [decide_eq_false (range_empty (Nat.le_refl n)), Bool.false_and, Bool.or_false]⟩

theorem shrRef_refines (s : Raw 64) (h : s.Inv) (k : Nat) :
    (shrRef s k).Inv ∧ (shrRef s k).abs = s.abs.shr k := by
  have hcap := le_size_fresh s.length
  obtain ⟨m, _, hm, hb⟩ := shrRefLoop_spec s.data _ k s.length 0 hcap
  refine Raw.refines_shr s _ (by decide) h k rfl (by rw [shrRef, size_shrRefLoop]; exact hcap) fun i => ?_
  rw [shrRef, hb, bitAt_replicate_zero, Bool.false_or]
  by_cases h1 : i + k < s.length
  · rw [decide_eq_true h1, decide_eq_true ⟨Nat.zero_le i, Nat.lt_of_add_lt_add_right (Nat.lt_of_lt_of_le h1 hm)⟩]
  · rw [decide_eq_false h1, h.2 _ (Nat.not_lt.mp h1), Bool.and_false, Bool.false_and]

@[simp] theorem size_shlRefLoop (old new : Array (BitVec 64)) (k n : Nat) :
    (shlRefLoop old new k n).size = new.size := by
  fun_induction shlRefLoop old new k n with
  | case1 new n _ _ _ ih => rw [ih, size_orBits]
  | case2 => rfl

theorem shlRefLoop_spec (old new : Array (BitVec 64)) (k n : Nat) (hcap : n ≤ new.size * 64) (i : Nat) :
    bitAt (shlRefLoop old new k n) i =
      (bitAt new i || (decide (k ≤ i ∧ i < n) && bitAt old (i - k))) := by
  fun_induction shlRefLoop old new k n with
  | case1 new n hlt l n' ih =>
    obtain ⟨⟨hl, (hn' : n' + l = n), (hk : k ≤ n')⟩, (hq : n' % 64 + l ≤ 64), (hp : (n' - k) % 64 + l ≤ 64)⟩ :=
      fit_down (w := 64) (l := l) (by decide) hlt rfl
    clear_value n' l
    subst hn'
    have hin : n' < new.size * 64 := Nat.lt_of_lt_of_le (Nat.lt_add_of_pos_right hl) hcap
    rw [ih (by rw [size_orBits]; exact Nat.le_of_lt hin),
      bitAt_orBits_readBits (by decide) new old n' _ l i (· - k) hq hp hin fun t _ => Nat.sub_add_comm hk,
      Bool.or_assoc, Bool.or_comm (decide _ && _), ← Bool.and_or_distrib_right,
      decide_range_or k n' (n' + l) i hk (Nat.le_add_right n' l)]
  | case2 new n hlt =>
    rw [decide_eq_false (range_empty (Nat.le_of_not_lt hlt)), Bool.false_and, Bool.or_false]

theorem shlRef_refines_any (s : Raw 64) (k : Nat) :
    (shlRef s k).Inv ∧ (shlRef s k).abs = s.abs.shl k := by
  have hcap := le_size_fresh s.length
  refine Raw.refines_shl s _ (by decide) k rfl (by rw [shlRef, size_shlRefLoop]; exact hcap) fun i => ?_
  rw [shlRef, shlRefLoop_spec _ _ _ _ hcap, bitAt_replicate_zero, Bool.false_or]

theorem shlRef_refines (s : Raw 64) (_h : s.Inv) (k : Nat) :
    (shlRef s k).Inv ∧ (shlRef s k).abs = s.abs.shl k :=
  shlRef_refines_any s k

end Bvd

end Bva
