import BvaModel.Store
/-!
Word arrays, whatever the operation.  A loop is followed by an invariant indexed by its counter (`forRange_inv`); `wd` is total
(zero out of bounds), so the word reads of `setIfInBounds`, `modify`, `replicate`, `map` … are `if`s; words and bits are linked by
`bitAt ws (k * w + j) = (wd ws k).getLsbD j` (`getLsbD_wd`, `wd_chunks`, and back: `bitAt_of_wd`).  The file closes with
`capFromBitLen`: `cap_le_iff` says what it is, the rest follows from it.
-/
namespace Bva
variable {w : Nat}

theorem forRange_empty {σ : Type} (a b : Nat) (h : b ≤ a) (f : Nat → σ → σ) (init : σ) :
    forRange a b f init = init := by
  unfold forRange
  rw [Nat.sub_eq_zero_of_le h]; rfl

theorem forRange_succ {σ : Type} {a b : Nat} (h : a ≤ b) (f : Nat → σ → σ) (init : σ) :
    forRange a (b + 1) f init = f b (forRange a b f init) := by
  unfold forRange
  rw [Nat.succ_sub h, List.range'_concat, List.foldl_append, Nat.one_mul, Nat.add_sub_cancel' h]
  rfl

theorem forRange_inv {σ : Type} (P : Nat → σ → Prop) (f : Nat → σ → σ) (a b : Nat) (hab : a ≤ b)
    (hstep : ∀ i s, a ≤ i → i < b → P i s → P (i + 1) (f i s)) (init : σ) (h0 : P a init) :
    P b (forRange a b f init) := by
  induction hab with
  | refl => rw [forRange_empty a a (Nat.le_refl a)]; exact h0
  | @step b hab ih =>
    rw [forRange_succ hab]
    exact hstep b _ hab (Nat.lt_succ_self b) (ih fun i s h1 h2 => hstep i s h1 (Nat.lt_succ_of_lt h2))

theorem forRangeRev_inv {σ : Type} (P : Nat → σ → Prop) (f : Nat → σ → σ) (a b : Nat) (hab : a ≤ b)
    (hstep : ∀ i s, a ≤ i → i < b → P (i + 1) s → P i (f i s)) (init : σ) (h0 : P b init) :
    P a (forRangeRev a b f init) := by
  unfold forRangeRev
  obtain ⟨k, rfl⟩ := Nat.exists_eq_add_of_le hab
  clear hab
  rw [Nat.add_sub_cancel_left]
  induction k generalizing a with
  | zero => exact h0
  | succ k ih =>
    rw [← Nat.add_assoc, Nat.add_right_comm] at hstep h0
    exact hstep a _ (Nat.le_refl a) (Nat.lt_of_lt_of_le (Nat.lt_succ_self a) (Nat.le_add_right ..))
      (ih (a + 1) (fun i s h1 h2 => hstep i s (Nat.le_of_succ_le h1) h2) h0)

theorem wd_eq_getElem? (ws : Array (BitVec w)) (i : Nat) : wd ws i = ws[i]?.getD 0#w :=
  Array.getD_eq_getD_getElem? ..

theorem wd_oob (ws : Array (BitVec w)) (i : Nat) (h : ws.size ≤ i) : wd ws i = 0#w := by
  rw [wd_eq_getElem?, Array.getElem?_eq_none h]; rfl

theorem wd_setIfInBounds (ws : Array (BitVec w)) (j i : Nat) (x : BitVec w) :
    wd (ws.setIfInBounds j x) i = if j = i ∧ j < ws.size then x else wd ws i := by
  rw [wd_eq_getElem?, wd_eq_getElem?, Array.getElem?_setIfInBounds]
  by_cases h : j = i
  · subst h
    by_cases h2 : j < ws.size <;> simp [h2]
  · simp [h]

theorem modify_eq_setIfInBounds (ws : Array (BitVec w)) (j : Nat) (f : BitVec w → BitVec w) :
    ws.modify j f = ws.setIfInBounds j (f (wd ws j)) := by
  apply Array.ext_getElem?
  intro i
  rw [Array.getElem?_modify, Array.getElem?_setIfInBounds, wd_eq_getElem?]
  by_cases hj : j = i
  · subst hj
    by_cases hs : j < ws.size <;> simp [hs]
  · simp [hj]

theorem wd_modify (ws : Array (BitVec w)) (j i : Nat) (f : BitVec w → BitVec w) :
    wd (ws.modify j f) i = if j = i ∧ j < ws.size then f (wd ws i) else wd ws i := by
  rw [modify_eq_setIfInBounds, wd_setIfInBounds]
  by_cases h : j = i ∧ j < ws.size
  · rw [if_pos h, if_pos h, h.1]
  · rw [if_neg h, if_neg h]

theorem wd_replicate (n i : Nat) (x : BitVec w) :
    wd (Array.replicate n x) i = if i < n then x else 0#w := by
  rw [wd_eq_getElem?, Array.getElem?_replicate]
  split <;> rfl

theorem wd_ofFn (n i : Nat) (f : Fin n → BitVec w) :
    wd (Array.ofFn f) i = if h : i < n then f ⟨i, h⟩ else 0#w := by
  rw [wd_eq_getElem?, Array.getElem?_ofFn]
  split <;> rfl

theorem wd_mapIdx (ws : Array (BitVec w)) (f : Nat → BitVec w → BitVec w) (i : Nat) :
    wd (ws.mapIdx f) i = if i < ws.size then f i (wd ws i) else 0#w := by
  rw [wd_eq_getElem?, wd_eq_getElem?, Array.getElem?_mapIdx]
  by_cases h : i < ws.size
  · rw [if_pos h, Array.getElem?_eq_getElem h]; rfl
  · rw [if_neg h, Array.getElem?_eq_none (Nat.le_of_not_lt h)]; rfl

theorem wd_map (ws : Array (BitVec w)) (f : BitVec w → BitVec w) (i : Nat) :
    wd (ws.map f) i = if i < ws.size then f (wd ws i) else 0#w := by
  rw [wd_eq_getElem?, wd_eq_getElem?, Array.getElem?_map]
  by_cases h : i < ws.size
  · rw [if_pos h, Array.getElem?_eq_getElem h]; rfl
  · rw [if_neg h, Array.getElem?_eq_none (Nat.le_of_not_lt h)]; rfl

/-- `for i in a..b { data[i] = g(i, data[i]) }`: every word loop that touches word `i` in round `i` -/
theorem forRange_setWords (g : Nat → BitVec w → BitVec w) (a b : Nat) (ws : Array (BitVec w)) :
    (forRange a b (fun i arr => arr.setIfInBounds i (g i (wd arr i))) ws).size = ws.size ∧
    ∀ j, wd (forRange a b (fun i arr => arr.setIfInBounds i (g i (wd arr i))) ws) j =
      if a ≤ j ∧ j < b ∧ j < ws.size then g j (wd ws j) else wd ws j := by
  by_cases hab : a ≤ b
  · refine forRange_inv (fun k (arr : Array (BitVec w)) => arr.size = ws.size ∧
        ∀ j, wd arr j = if a ≤ j ∧ j < k ∧ j < ws.size then g j (wd ws j) else wd ws j)
      _ a b hab ?_ ws ⟨rfl, fun j => (if_neg fun c => Nat.not_le_of_lt c.2.1 c.1).symm⟩
    rintro i arr hai _ ⟨hs, hwd⟩
    refine ⟨by rw [Array.size_setIfInBounds, hs], fun j => ?_⟩
    -- round `i` reads word `i`, which no earlier round has written
    have hfresh : wd arr i = wd ws i := by rw [hwd, if_neg (fun c => Nat.lt_irrefl i c.2.1)]
    rw [wd_setIfInBounds, hs, hfresh, hwd j]
    by_cases hij : i = j
    · subst hij
      by_cases hi : i < ws.size
      · rw [if_pos ⟨rfl, hi⟩, if_pos ⟨hai, Nat.lt_succ_self i, hi⟩]
      · rw [if_neg (fun c => hi c.2), if_neg (fun c => hi c.2.2), if_neg (fun c => hi c.2.2)]
    · rw [if_neg (fun c => hij c.1)]
      by_cases c : a ≤ j ∧ j < i ∧ j < ws.size
      · rw [if_pos c, if_pos ⟨c.1, Nat.lt_succ_of_lt c.2.1, c.2.2⟩]
      · rw [if_neg c, if_neg (fun c' =>
          c ⟨c'.1, Nat.lt_of_le_of_ne (Nat.le_of_lt_succ c'.2.1) (Ne.symm hij), c'.2.2⟩)]
  · rw [forRange_empty a b (Nat.le_of_not_le hab)]
    exact ⟨rfl, fun j => (if_neg fun c => hab (Nat.le_trans c.1 (Nat.le_of_lt c.2.1))).symm⟩

/-- the loop `for i in 0..n { data[i] = g(i) }`, in a form that `rw` can match -/
theorem wd_forRange_set (g : Nat → BitVec w) (z : Array (BitVec w)) (n i : Nat) :
    wd (forRange 0 n (fun i a => a.setIfInBounds i (g i)) z) i =
      if i < n ∧ i < z.size then g i else wd z i := by
  rw [(forRange_setWords (fun k _ => g k) 0 n z).2]
  by_cases h : i < n ∧ i < z.size
  · rw [if_pos ⟨Nat.zero_le _, h⟩, if_pos h]
  · rw [if_neg (fun c => h c.2), if_neg h]

theorem size_forRange_set (g : Nat → BitVec w) (z : Array (BitVec w)) (n : Nat) :
    (forRange 0 n (fun i a => a.setIfInBounds i (g i)) z).size = z.size :=
  (forRange_setWords (fun k _ => g k) 0 n z).1

theorem div_mod_unique (hw : 0 < w) (q r : Nat) (hr : r < w) : (w * q + r) / w = q ∧ (w * q + r) % w = r :=
  ⟨by rw [Nat.mul_add_div hw, Nat.div_eq_of_lt hr, Nat.add_zero],
   by rw [Nat.mul_add_mod, Nat.mod_eq_of_lt hr]⟩

theorem div_lt_of_lt_mul (i n : Nat) (hw : 0 < w) (h : i < n * w) : i / w < n :=
  (Nat.div_lt_iff_lt_mul hw).mpr h

theorem bitAt_eq (ws : Array (BitVec w)) (i : Nat) : bitAt ws i = (wd ws (i / w)).getLsbD (i % w) := rfl

theorem getLsbD_wd (ws : Array (BitVec w)) (k j : Nat) (hj : j < w) :
    (wd ws k).getLsbD j = bitAt ws (k * w + j) := by
  obtain ⟨e1, e2⟩ := div_mod_unique (Nat.zero_lt_of_lt hj) k j hj
  rw [bitAt_eq, Nat.mul_comm, e1, e2]

/-- the words of an array are the `w`-bit chunking of its bits.  "`g` is the `J`-bit chunking of `G`",
`(g k).getLsbD j = (decide (j < J) && G (k * J + j))`, is the form in which every chunked read is described:
`getLsbD_slide`, `Raw.getInt_getLsbD`, `spl_Src.bits`, `spl_Chunks.g_bits`, `spl_Sys.get_bits`. -/
theorem wd_chunks (ws : Array (BitVec w)) (k j : Nat) :
    (wd ws k).getLsbD j = (decide (j < w) && bitAt ws (k * w + j)) := by
  by_cases hj : j < w
  · rw [getLsbD_wd _ _ _ hj, decide_eq_true hj, Bool.true_and]
  · rw [BitVec.getLsbD_of_ge _ _ (Nat.le_of_not_lt hj), decide_eq_false hj, Bool.false_and]

/-- Re-aligning chunks: if `g` cuts the bit sequence `G` into chunks of `J` bits, then
`(g k >> o) | (g (k+1) << (J - o))` is the chunk of `J` bits that starts `o` bits into chunk `k`. -/
theorem getLsbD_slide {J : Nat} (g : Nat → BitVec J) (G : Nat → Bool)
    (hg : ∀ k j, (g k).getLsbD j = (decide (j < J) && G (k * J + j))) (k o j : Nat) (ho : o ≤ J) :
    ((g k >>> o) ||| (g (k + 1) <<< (J - o))).getLsbD j = (decide (j < J) && G (k * J + o + j)) := by
  rw [BitVec.getLsbD_or, BitVec.getLsbD_ushiftRight, BitVec.getLsbD_shiftLeft, hg, hg, Nat.succ_mul,
    Nat.add_assoc (k * J) o j]
  by_cases hj : j < J
  · rw [decide_eq_true hj, Bool.true_and, Bool.true_and]
    by_cases hlo : o + j < J
    · -- the bit comes from chunk `k`
      rw [decide_eq_true hlo, decide_eq_true (Nat.lt_sub_of_add_lt (Nat.add_comm o j ▸ hlo)), Bool.true_and,
        Bool.not_true, Bool.false_and, Bool.or_false]
    · -- the bit comes from chunk `k + 1`
      have hle : J - o ≤ j := Nat.sub_le_of_le_add (Nat.add_comm o j ▸ Nat.le_of_not_lt hlo)
      rw [decide_eq_false hlo, decide_eq_false (Nat.not_lt.mpr hle),
        decide_eq_true (Nat.lt_of_le_of_lt (Nat.sub_le _ _) hj), Bool.false_and, Bool.false_or, Bool.not_false,
        Bool.true_and, Bool.true_and]
      -- the index: `k * J + J + (j - (J - o)) = k * J + (o + j)`
      rw [Nat.add_assoc, ← Nat.add_sub_assoc hle, Nat.sub_add_comm (Nat.sub_le J o), Nat.sub_sub_self ho]
  · rw [decide_eq_false hj, decide_eq_false (fun h => hj (Nat.lt_of_le_of_lt (Nat.le_add_left j o) h)),
      Bool.false_and, Bool.false_and, Bool.false_and, Bool.false_or]

theorem bitAt_of_wd (ws : Array (BitVec w)) (F : Nat → Bool) (hw : 0 < w)
    (h : ∀ k j, j < w → (wd ws k).getLsbD j = F (k * w + j)) (i : Nat) : bitAt ws i = F i := by
  rw [bitAt_eq, h _ _ (Nat.mod_lt i hw), Nat.div_add_mod']

theorem bitAt_oob (ws : Array (BitVec w)) (i : Nat) (h : ws.size * w ≤ i) (hw : 0 < w) :
    bitAt ws i = false := by
  rw [bitAt_eq, wd_oob _ _ ((Nat.le_div_iff_mul_le hw).mpr h)]
  exact BitVec.getLsbD_zero

theorem bitAt_setIfInBounds (ws : Array (BitVec w)) (j : Nat) (x : BitVec w) (i : Nat) :
    bitAt (ws.setIfInBounds j x) i = if i / w = j ∧ j < ws.size then x.getLsbD (i % w) else bitAt ws i := by
  rw [bitAt_eq, wd_setIfInBounds]
  by_cases h : j = i / w ∧ j < ws.size
  · rw [if_pos h, if_pos ⟨h.1.symm, h.2⟩]
  · rw [if_neg h, if_neg (fun c => h ⟨c.1.symm, c.2⟩)]; rfl

theorem bitAt_of_wd_range (hw : 0 < w) {a ws : Array (BitVec w)} {lo hi : Nat} {G : Nat → BitVec w}
    (h : ∀ j, wd a j = if lo ≤ j ∧ j < hi ∧ j < ws.size then G j else wd ws j) (i : Nat) :
    bitAt a i = if lo * w ≤ i ∧ i < hi * w ∧ i < ws.size * w then (G (i / w)).getLsbD (i % w) else bitAt ws i := by
  rw [bitAt_eq, h]
  simp only [Nat.le_div_iff_mul_le hw, Nat.div_lt_iff_lt_mul hw]
  split <;> rfl

theorem bitAt_replicate (n i : Nat) (x : BitVec w) :
    bitAt (Array.replicate n x) i = (decide (i / w < n) && x.getLsbD (i % w)) := by
  rw [bitAt_eq, wd_replicate]
  by_cases h : i / w < n <;> simp [h]

theorem bitAt_replicate_zero (n i : Nat) : bitAt (Array.replicate n 0#w) i = false := by
  rw [bitAt_replicate, BitVec.getLsbD_zero, Bool.and_false]

theorem getLsbD_b2w (c : Bool) (m : Nat) :
    (b2w w c).getLsbD m = (decide (0 < w) && decide (m = 0) && c) := by
  unfold b2w; cases c <;> simp [BitVec.getLsbD_one]

theorem cap_le_iff (n c : Nat) (hw : 0 < w) : capFromBitLen w n ≤ c ↔ n ≤ c * w := by
  unfold capFromBitLen
  rw [Nat.div_le_iff_le_mul_add_pred hw, Nat.mul_comm w c, Nat.add_sub_assoc hw, Nat.add_le_add_iff_right]

theorem le_cap_mul (n : Nat) (hw : 0 < w) : n ≤ capFromBitLen w n * w :=
  (cap_le_iff n _ hw).mp (Nat.le_refl _)

theorem le_mul_cap (n : Nat) (hw : 0 < w) : n ≤ w * capFromBitLen w n :=
  Nat.mul_comm .. ▸ le_cap_mul n hw

theorem lt_succ_div_mul (n : Nat) (hw : 0 < w) : n < (n / w + 1) * w :=
  Nat.mul_comm .. ▸ Nat.lt_mul_div_succ n hw

theorem cap_le_succ (n : Nat) (hw : 0 < w) : capFromBitLen w n ≤ n / w + 1 :=
  (cap_le_iff n _ hw).mpr (Nat.le_of_lt (lt_succ_div_mul n hw))

theorem capFromBitLen_eq (hw : 0 < w) (len : Nat) :
    capFromBitLen w len = if len % w = 0 then len / w else len / w + 1 := by
  have hle : len / w ≤ capFromBitLen w len :=
    Nat.le_of_mul_le_mul_right (Nat.le_trans (Nat.div_mul_le_self len w) (le_cap_mul len hw)) hw
  by_cases h0 : len % w = 0
  · rw [if_pos h0]
    exact Nat.le_antisymm ((cap_le_iff len _ hw).mpr
      (Nat.le_of_eq (Nat.div_mul_cancel (Nat.dvd_of_mod_eq_zero h0)).symm)) hle
  · rw [if_neg h0]
    refine Nat.le_antisymm (cap_le_succ len hw) (Nat.succ_le_of_lt (Nat.lt_of_not_le fun c => h0 ?_))
    -- `len ≤ len / w * w` leaves no remainder
    have := Nat.le_antisymm ((cap_le_iff len _ hw).mp c) (Nat.div_mul_le_self len w)
    rw [this, Nat.mul_mod_left]

theorem div_lt_cap (i n : Nat) (hw : 0 < w) (h : i < n) : i / w < capFromBitLen w n :=
  div_lt_of_lt_mul i _ hw (Nat.lt_of_lt_of_le h (le_cap_mul n hw))

end Bva
