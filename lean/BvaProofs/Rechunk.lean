import BvaProofs.Digits
/-!
# Re-chunking: `get_int` / `set_int` (reading/writing `w`-bit word arrays as `wJ`-bit words)

A narrow chunk (`wJ ∣ w`) is a field inside one word, read and written at bit `idx * wJ`; a wide chunk
(`w ∣ wJ`) is `wJ / w` whole words: read, they are the digits of the chunk's value; written, they are a word loop.
-/
namespace Bva
variable {w wJ : Nat}

/-- the two word widths are positive and one divides the other (always true for Rust's
`u8 … u128, usize`) -/
def Compat (w wJ : Nat) : Prop := 0 < w ∧ 0 < wJ ∧ (wJ ∣ w ∨ w ∣ wJ)

theorem Compat.small (hc : Compat w wJ) (h : wJ ≤ w) : w / wJ * wJ = w := by
  obtain ⟨hw, hj, hd | hd⟩ := hc
  · exact Nat.div_mul_cancel hd
  · rw [Nat.le_antisymm (Nat.le_of_dvd hj hd) h, Nat.div_self hj, Nat.one_mul]

theorem Compat.large (hc : Compat w wJ) (h : ¬ wJ ≤ w) : wJ / w * w = wJ := by
  obtain ⟨hw, hj, hd | hd⟩ := hc
  · exact absurd (Nat.le_of_dvd hw hd) h
  · exact Nat.div_mul_cancel hd

/-- chunk `i` of `c` bits in words of `r` chunks: its word, its offset, and that it fits -/
theorem chunk_idx {c r : Nat} (hc : 0 < c) (hr : 0 < r) (i : Nat) :
    i * c / (r * c) = i / r ∧ i * c % (r * c) = i % r * c ∧ i * c % (r * c) + c ≤ r * c := by
  refine ⟨Nat.mul_div_mul_right i r hc, Nat.mul_mod_mul_right .., ?_⟩
  rw [Nat.mul_mod_mul_right, ← Nat.succ_mul]
  exact Nat.mul_le_mul_right c (Nat.mod_lt i hr)

/-- bit `j` of a field of `c` bits that lies inside one word -/
theorem getLsbD_ushiftRight_wd (ws : Array (BitVec w)) (pos : Nat) {c j : Nat} (hfit : pos % w + c ≤ w) (hj : j < c) :
    (wd ws (pos / w) >>> (pos % w)).getLsbD j = bitAt ws (pos + j) := by
  rw [BitVec.getLsbD_ushiftRight, getLsbD_wd _ _ _ (Nat.lt_of_lt_of_le (Nat.add_lt_add_left hj _) hfit),
    ← Nat.add_assoc, Nat.div_add_mod']

theorem getLsbD_subword {c r : Nat} (hr : 0 < r) (ws : Array (BitVec (c * r))) (i j : Nat) (hj : j < c) :
    (wd ws (i / r) >>> (i % r * c)).getLsbD j = bitAt ws (c * i + j) := by
  obtain ⟨e1, e2, e3⟩ := chunk_idx (Nat.zero_lt_of_lt hj) hr i
  rw [Nat.mul_comm r c, Nat.mul_comm i c] at e1 e2 e3
  rw [← e1, ← e2]
  exact getLsbD_ushiftRight_wd ws (c * i) e3 hj

theorem Compat.chunk (hc : Compat w wJ) (h : wJ ≤ w) (idx : Nat) :
    idx * wJ / w = idx / (w / wJ) ∧ idx * wJ % w = idx % (w / wJ) * wJ ∧ idx * wJ % w + wJ ≤ w := by
  have := chunk_idx hc.2.1 (Nat.div_pos h hc.2.1) idx
  rwa [hc.small h] at this

/-- the little-endian gather loop of `get_int`: the words are the digits of the result -/
theorem forRange_gather (f : Nat → BitVec w) (k : Nat) :
    forRange 0 k (fun i (v : BitVec wJ) => v ||| ((f i).setWidth wJ <<< (w * i))) 0#wJ
      = BitVec.ofNat wJ (valF f k) := by
  refine forRange_inv (fun k (v : BitVec wJ) => v = BitVec.ofNat wJ (valF f k)) _ 0 k (Nat.zero_le k)
    (fun k v _ _ ih => ?_) _ rfl
  rw [ih, ← BitVec.ofNat_toNat, BitVec.or_comm, shl_or_ofNat _ (valF_lt f k), valF, Nat.add_comm, Nat.mul_comm]

theorem forRange_add_left {σ : Type} (c a b : Nat) (f : Nat → σ → σ) (init : σ) :
    forRange a b (fun i => f (c + i)) init = forRange (c + a) (c + b) f init := by
  unfold forRange
  rw [Nat.add_sub_add_left, ← List.map_add_range', List.foldl_map]

/-- the little-endian scatter loop of `set_int`: word `base + t` becomes digit `t` of `v` -/
theorem forRange_scatter (ws : Array (BitVec w)) (v : BitVec wJ) (base k : Nat) :
    (forRange 0 k (fun t a => a.setIfInBounds (base + t) ((v >>> (w * t)).setWidth w)) ws).size = ws.size ∧
    ∀ j, wd (forRange 0 k (fun t a => a.setIfInBounds (base + t) ((v >>> (w * t)).setWidth w)) ws) j
      = if base ≤ j ∧ j < base + k ∧ j < ws.size then (v >>> (w * (j - base))).setWidth w else wd ws j := by
  have e : (fun t (a : Array (BitVec w)) => a.setIfInBounds (base + t) ((v >>> (w * t)).setWidth w))
      = fun t a => a.setIfInBounds (base + t) ((v >>> (w * (base + t - base))).setWidth w) := by
    funext t a; rw [Nat.add_sub_cancel_left]
  rw [e, forRange_add_left base 0 k (fun j (a : Array (BitVec w)) =>
    a.setIfInBounds j ((v >>> (w * (j - base))).setWidth w))]
  exact forRange_setWords (fun j _ => (v >>> (w * (j - base))).setWidth w) (base + 0) (base + k) ws

/-- the narrow branch is in range when the chunk starts inside the storage -/
theorem Compat.small_inRange (hc : Compat w wJ) (h : wJ ≤ w) (n idx : Nat) :
    idx < n * (w / wJ) ↔ idx * wJ < n * w := by
  rw [← Nat.mul_lt_mul_right hc.2.1, Nat.mul_assoc, hc.small h]

/-- the wide branch is out of range when the chunk starts at or after the end of the storage (`sliceIntLen` is a
ceiling division) -/
theorem sliceIntLen_le_iff (ws : Array (BitVec w)) (hJ : 0 < wJ) (idx : Nat) :
    sliceIntLen ws wJ ≤ idx ↔ ws.size * w ≤ idx * wJ :=
  cap_le_iff _ _ hJ

theorem sliceGetInt_out (ws : Array (BitVec w)) (hc : Compat w wJ) {idx : Nat} (h : ws.size * w ≤ idx * wJ) :
    sliceGetInt ws wJ idx = none := by
  unfold sliceGetInt
  by_cases hle : wJ ≤ w
  · rw [if_pos hle]
    exact if_neg (mt (hc.small_inRange hle _ _).mp (Nat.not_lt.mpr h))
  · rw [if_neg hle]
    exact if_pos ((sliceIntLen_le_iff ws hc.2.1 idx).mpr h)

/-- a narrow chunk is the field at bit `idx * wJ`, which lies inside one word (`hc.chunk`) -/
theorem sliceGetInt_narrow (ws : Array (BitVec w)) (hc : Compat w wJ) (hle : wJ ≤ w) {idx : Nat}
    (h : idx * wJ < ws.size * w) :
    sliceGetInt ws wJ idx = some ((wd ws (idx * wJ / w) >>> (idx * wJ % w)).setWidth wJ) := by
  obtain ⟨e1, e2, _⟩ := hc.chunk hle idx
  unfold sliceGetInt
  rw [if_pos hle, e1, e2]
  exact if_pos ((hc.small_inRange hle _ _).mpr h)

/-- a wide chunk is the `s = wJ / w` words from `idx * s` on, gathered as digits -/
theorem sliceGetInt_wide (ws : Array (BitVec w)) (hc : Compat w wJ) (hle : ¬ wJ ≤ w) {idx : Nat}
    (h : idx * wJ < ws.size * w) :
    sliceGetInt ws wJ idx = some (BitVec.ofNat wJ (valF (fun t => wd ws (idx * (wJ / w) + t)) (wJ / w))) := by
  unfold sliceGetInt
  rw [if_neg hle, ← forRange_gather]
  exact if_neg (mt (sliceIntLen_le_iff ws hc.2.1 idx).mp (Nat.not_le.mpr h))

theorem sliceGetInt_isSome (ws : Array (BitVec w)) (wJ idx : Nat) (hc : Compat w wJ) :
    (sliceGetInt ws wJ idx).isSome ↔ idx * wJ < ws.size * w := by
  by_cases h : idx * wJ < ws.size * w
  · refine iff_of_true ?_ h
    by_cases hle : wJ ≤ w
    · rw [sliceGetInt_narrow ws hc hle h]; rfl
    · rw [sliceGetInt_wide ws hc hle h]; rfl
  · rw [sliceGetInt_out ws hc (Nat.le_of_not_lt h)]
    exact iff_of_false nofun h

theorem getLsbD_sliceGetInt (ws : Array (BitVec w)) (wJ idx : Nat) (hc : Compat w wJ)
    (v : BitVec wJ) (h : sliceGetInt ws wJ idx = some v) (j : Nat) :
    v.getLsbD j = (decide (j < wJ) && bitAt ws (idx * wJ + j)) := by
  have hin : idx * wJ < ws.size * w := (sliceGetInt_isSome ws wJ idx hc).mp (by rw [h]; rfl)
  by_cases hle : wJ ≤ w
  · rw [← Option.some.inj ((sliceGetInt_narrow ws hc hle hin).symm.trans h), BitVec.getLsbD_setWidth]
    exact gate_congr Iff.rfl (getLsbD_ushiftRight_wd ws _ (hc.chunk hle idx).2.2)
  · -- bit `j` of the value of the words `idx * s + t`, `t < s`, is bit `j % w` of word `idx * s + j / w`
    rw [← Option.some.inj ((sliceGetInt_wide ws hc hle hin).symm.trans h), BitVec.getLsbD_ofNat, testBit_valF hc.1, wd_chunks]
    -- … which is bit `idx * wJ + j` of the array, as `s * w = wJ`
    rw [Nat.add_mul, Nat.mul_assoc, Nat.mul_comm w, hc.large hle, Nat.add_assoc, Nat.div_add_mod',
      decide_eq_true (Nat.mod_lt j hc.1), Bool.true_and, ← Bool.and_assoc, Bool.and_self]

theorem Raw.getInt_isSome (s : Raw w) (hc : Compat w wJ) (h : s.Inv) (idx : Nat) :
    (s.getInt wJ idx).isSome ↔ idx * wJ < s.length := by
  unfold Raw.getInt
  by_cases h1 : idx * wJ < s.length
  · rw [if_pos h1, Option.isSome_map, sliceGetInt_isSome _ _ _ hc]
    exact iff_of_true (Nat.lt_of_lt_of_le h1 h.1) h1
  · rw [if_neg h1]
    exact iff_of_false nofun h1

theorem Raw.getInt_getLsbD (s : Raw w) (hc : Compat w wJ) (h : s.Inv) (idx j : Nat) :
    ((s.getInt wJ idx).getD 0#wJ).getLsbD j
      = (decide (j < wJ) && bitAt s.data (idx * wJ + j)) := by
  unfold Raw.getInt
  by_cases h1 : idx * wJ < s.length
  · obtain ⟨v, hv⟩ := Option.isSome_iff_exists.mp
      ((sliceGetInt_isSome _ _ _ hc).mpr (Nat.lt_of_lt_of_le h1 h.1))
    rw [if_pos h1, hv, Option.map_some, Option.getD_some, BitVec.getLsbD_and, getLsbD_mask,
      getLsbD_sliceGetInt _ _ _ hc v hv]
    -- the mask cuts at `length`, above which the storage is zero anyway
    by_cases h2 : idx * wJ + j < s.length
    · rw [decide_eq_true (Nat.lt_sub_iff_add_lt'.mpr h2), Bool.and_true, Bool.and_comm, ← Bool.and_assoc, Bool.and_self]
    · rw [h.2 _ (Nat.le_of_not_lt h2), Bool.and_false, Bool.false_and]
  · rw [if_neg h1, h.2 _ (Nat.le_trans (Nat.le_of_not_lt h1) (Nat.le_add_right ..)), Bool.and_false]
    exact BitVec.getLsbD_zero

theorem Raw.getInt_beyond (s : Raw w) (hJ : 0 < wJ) (idx : Nat) (h : s.intLen wJ ≤ idx) :
    (s.getInt wJ idx).getD 0#wJ = 0#wJ := by
  unfold Raw.getInt
  rw [if_neg (Nat.not_lt.mpr ((cap_le_iff s.length idx hJ).mp h))]
  rfl

theorem Raw.getInt_toNat (s : Raw w) (hc : Compat w wJ) (h : s.Inv) (idx : Nat) :
    ((s.getInt wJ idx).getD 0#wJ).toNat = (s.abs.val >>> (idx * wJ)) % 2 ^ wJ :=
  toNat_window hc.1 _ s.data _ (Raw.getInt_getLsbD s hc h idx)

theorem size_sliceSetInt (ws : Array (BitVec w)) (wJ idx : Nat) (v : BitVec wJ) :
    (sliceSetInt ws wJ idx v).size = ws.size := by
  unfold sliceSetInt
  simp only [apply_ite Array.size, Array.size_setIfInBounds, (forRange_scatter ws v _ _).1, ite_self]

theorem sliceSetInt_out (ws : Array (BitVec w)) (hc : Compat w wJ) {idx : Nat} (h : ws.size * w ≤ idx * wJ)
    (v : BitVec wJ) : sliceSetInt ws wJ idx v = ws := by
  unfold sliceSetInt
  by_cases hle : wJ ≤ w
  · rw [if_pos hle]
    exact if_neg (mt (hc.small_inRange hle _ _).mp (Nat.not_lt.mpr h))
  · rw [if_neg hle]
    exact if_pos ((sliceIntLen_le_iff ws hc.2.1 idx).mpr h)

/-- a narrow chunk is written as the field at bit `idx * wJ`, which lies inside one word (`hc.chunk`) -/
theorem sliceSetInt_narrow (ws : Array (BitVec w)) (hc : Compat w wJ) (hle : wJ ≤ w) {idx : Nat}
    (h : idx * wJ < ws.size * w) (v : BitVec wJ) :
    sliceSetInt ws wJ idx v = writeBits ws (idx * wJ) wJ (v.setWidth w) := by
  obtain ⟨e1, e2, _⟩ := hc.chunk hle idx
  unfold sliceSetInt writeBits
  rw [if_pos hle, e1, e2]
  exact if_pos ((hc.small_inRange hle _ _).mpr h)

/-- a wide chunk is written as the words `idx * s ..`, `s = wJ / w` -/
theorem sliceSetInt_wide (ws : Array (BitVec w)) (hc : Compat w wJ) (hle : ¬ wJ ≤ w) {idx : Nat}
    (h : idx * wJ < ws.size * w) (v : BitVec wJ) :
    sliceSetInt ws wJ idx v
      = forRange 0 (wJ / w) (fun t a => a.setIfInBounds (idx * (wJ / w) + t) ((v >>> (w * t)).setWidth w)) ws := by
  unfold sliceSetInt
  rw [if_neg hle]
  exact if_neg (mt (sliceIntLen_le_iff ws hc.2.1 idx).mp (Nat.not_le.mpr h))

theorem bitAt_sliceSetInt (ws : Array (BitVec w)) (wJ idx : Nat) (hc : Compat w wJ)
    (v : BitVec wJ) (i : Nat) :
    bitAt (sliceSetInt ws wJ idx v) i
      = if idx * wJ ≤ i ∧ i < (idx + 1) * wJ ∧ i < ws.size * w then v.getLsbD (i - idx * wJ)
        else bitAt ws i := by
  have hw := hc.1
  by_cases hin : idx * wJ < ws.size * w
  · by_cases hle : wJ ≤ w
    · -- the whole field lies inside the storage, so the third test is implied by the second
      have e3 := (hc.chunk hle idx).2.2
      have hfull := Nat.mul_le_mul_right wJ ((hc.small_inRange hle _ _).mpr hin)
      rw [Nat.mul_assoc, hc.small hle, Nat.succ_mul] at hfull
      rw [sliceSetInt_narrow ws hc hle hin, bitAt_writeBits ws _ wJ i _ hw e3 hin
        (fun j hj => by rw [BitVec.getLsbD_setWidth, BitVec.getLsbD_of_ge v j hj, Bool.and_false]), Nat.succ_mul]
      refine ite_congr (propext ⟨fun c => ⟨c.1, c.2, Nat.lt_of_lt_of_le c.2 hfull⟩, fun c => ⟨c.1, c.2.1⟩⟩)
        (fun c => ?_) (fun _ => rfl)
      rw [BitVec.getLsbD_setWidth, decide_eq_true (Nat.lt_of_lt_of_le ((Nat.sub_lt_iff_lt_add' c.1).mpr c.2.1) hle),
        Bool.true_and]
    · -- the words `idx * s ..` become the digits of `v` (`forRange_scatter`), as far as they exist
      have e := hc.large hle
      rw [sliceSetInt_wide ws hc hle hin, bitAt_of_wd_range hw (forRange_scatter ws v _ _).2, ← Nat.succ_mul,
        Nat.mul_assoc, Nat.mul_assoc, e]
      refine ite_congr rfl (fun c => ?_) (fun _ => rfl)
      -- bit `i % w` of digit `i / w - idx * s` of `v` is bit `i - idx * wJ` of `v`
      have hbase : w * (idx * (wJ / w)) = idx * wJ := by rw [Nat.mul_comm, Nat.mul_assoc, e]
      have hle' : idx * wJ ≤ w * (i / w) :=
        hbase ▸ Nat.mul_le_mul_left w ((Nat.le_div_iff_mul_le hw).mpr (by rw [Nat.mul_assoc, e]; exact c.1))
      rw [BitVec.getLsbD_setWidth, BitVec.getLsbD_ushiftRight, decide_eq_true (Nat.mod_lt i hw), Bool.true_and,
        Nat.mul_sub, hbase, ← Nat.sub_add_comm hle', Nat.div_add_mod]
  · -- out of range nothing is written, and no bit of the chunk lies inside the storage
    rw [sliceSetInt_out ws hc (Nat.le_of_not_lt hin),
      if_neg fun c => hin (Nat.lt_of_le_of_lt c.1 c.2.2)]

theorem Raw.setInt_size (s : Raw w) (idx : Nat) (v : BitVec wJ) :
    (s.setInt wJ idx v).data.size = s.data.size := by
  unfold Raw.setInt
  by_cases h1 : idx * wJ < s.length
  · rw [if_pos h1]
    exact size_sliceSetInt _ _ _ _
  · rw [if_neg h1]

theorem Raw.setInt_length (s : Raw w) (idx : Nat) (v : BitVec wJ) :
    (s.setInt wJ idx v).length = s.length := by
  unfold Raw.setInt
  rw [apply_ite Raw.length, ite_self]

theorem Raw.setInt_bits (s : Raw w) (hc : Compat w wJ) (h : s.Inv) (idx : Nat) (v : BitVec wJ)
    (i : Nat) :
    bitAt (s.setInt wJ idx v).data i
      = if idx * wJ ≤ i ∧ i < (idx + 1) * wJ ∧ i < s.length then v.getLsbD (i - idx * wJ)
        else bitAt s.data i := by
  unfold Raw.setInt
  by_cases h1 : idx * wJ < s.length
  · rw [if_pos h1]
    show bitAt (sliceSetInt _ _ _ _) i = _  -- the `data` field of the updated record, for the `rw`
    rw [bitAt_sliceSetInt _ _ _ hc, BitVec.getLsbD_and, getLsbD_mask]
    -- the value is masked to `length`; above `length` the old bit is zero as well
    by_cases hi : i < s.length
    · refine ite_congr (propext ⟨fun c => ⟨c.1, c.2.1, hi⟩, fun c => ⟨c.1, c.2.1, Nat.lt_of_lt_of_le hi h.1⟩⟩)
        (fun c => ?_) (fun _ => rfl)
      rw [decide_eq_true ((Nat.sub_lt_iff_lt_add' c.1).mpr (Nat.succ_mul .. ▸ c.2.1)),
        decide_eq_true (Nat.sub_lt_sub_right c.1 hi), Bool.true_and, Bool.and_true]
    · rw [if_neg (c := idx * wJ ≤ i ∧ i < (idx + 1) * wJ ∧ i < s.length) fun c => hi c.2.2,
        h.2 i (Nat.le_of_not_lt hi),
        decide_eq_false (Nat.not_lt.mpr (Nat.sub_le_sub_right (Nat.le_of_not_lt hi) _)), Bool.and_false,
        Bool.and_false, ite_self]
  · rw [if_neg h1, if_neg fun c => h1 (Nat.lt_of_le_of_lt c.1 c.2.2)]

theorem Raw.setInt_inv (s : Raw w) (hc : Compat w wJ) (h : s.Inv) (idx : Nat) (v : BitVec wJ) :
    (s.setInt wJ idx v).Inv := by
  unfold Raw.Inv
  rw [Raw.setInt_size, Raw.setInt_length]
  refine ⟨h.1, fun i hi => ?_⟩
  rw [Raw.setInt_bits s hc h, if_neg fun c => Nat.lt_irrefl _ (Nat.lt_of_lt_of_le c.2.2 hi)]
  exact h.2 i hi

end Bva
