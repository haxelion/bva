import BvaProofs.Words
/-!
# Values of word sequences: `valF f n = Σ_{i<n} (f i)·2^(w·i)`, and `valUpTo ws = valF (wd ws)`

The value-level facts are proved once, for `valF`; the bridge to bits is `testBit_valF` and, in the form in
which every fetch hypothesis `valF f n = X % 2^(w·n)` is discharged, `valF_eq_mod_of_bits`.
-/
namespace Bva

def valF {w : Nat} (f : Nat → BitVec w) : Nat → Nat
  | 0 => 0
  | n + 1 => valF f n + 2 ^ (w * n) * (f n).toNat

variable {w : Nat}

-- `(2 : Nat)`: with literals only, the elaborator finds the type by its default-instance search, which is slow
theorem two_pow_succ_mul (n : Nat) : (2 : Nat) ^ (w * (n + 1)) = 2 ^ (w * n) * 2 ^ w := by
  rw [Nat.mul_succ, Nat.pow_add]

theorem valF_wd (ws : Array (BitVec w)) (n : Nat) : valF (wd ws) n = valUpTo ws n := by
  induction n with
  | zero => rfl
  | succ n ih => simp only [valF, valUpTo, ih]

theorem valF_congr (f g : Nat → BitVec w) (n : Nat) (h : ∀ t, t < n → f t = g t) :
    valF f n = valF g n := by
  induction n with
  | zero => rfl
  | succ n ih =>
    simp only [valF]
    rw [ih (fun t ht => h t (Nat.lt_succ_of_lt ht)), h n (Nat.lt_succ_self n)]

theorem valUpTo_congr (a b : Array (BitVec w)) (n : Nat) (h : ∀ t, t < n → wd a t = wd b t) :
    valUpTo a n = valUpTo b n := by
  rw [← valF_wd, ← valF_wd]; exact valF_congr _ _ n h

theorem valF_lt (f : Nat → BitVec w) (n : Nat) : valF f n < 2 ^ (w * n) := by
  induction n with
  | zero => exact Nat.two_pow_pos _
  | succ n ih =>
    -- with `P = 2 ^ (w * n)` and the word `x < 2 ^ w`: `valF f n < P`, and `P + P * x ≤ P * 2 ^ w`
    have := Nat.mul_le_mul_left (2 ^ (w * n)) (Nat.succ_le_of_lt (f n).isLt)
    rw [Nat.mul_succ, Nat.add_comm] at this
    rw [two_pow_succ_mul]
    exact Nat.lt_of_lt_of_le (Nat.add_lt_add_right ih _) this

theorem valF_add (f : Nat → BitVec w) (m k : Nat) :
    valF f (m + k) = valF f m + 2 ^ (w * m) * valF (fun t => f (m + t)) k := by
  induction k with
  | zero => rfl
  | succ k ih =>
    rw [← Nat.add_assoc, valF, ih, valF, Nat.mul_add w, Nat.pow_add, Nat.mul_add, Nat.mul_assoc, Nat.add_assoc]

theorem valF_zero (f : Nat → BitVec w) (n : Nat) (hz : ∀ t, t < n → f t = 0#w) : valF f n = 0 := by
  induction n with
  | zero => rfl
  | succ n ih => rw [valF, ih (fun t ht => hz t (Nat.lt_succ_of_lt ht)), hz n (Nat.lt_succ_self n)]; rfl

theorem valF_zero_tail (f : Nat → BitVec w) (m k : Nat) (hz : ∀ t, m ≤ t → f t = 0#w) :
    valF f (m + k) = valF f m := by
  rw [valF_add, valF_zero (fun t => f (m + t)) k (fun t _ => hz _ (Nat.le_add_right m t)), Nat.mul_zero,
    Nat.add_zero]

theorem valF_mod (f : Nat → BitVec w) (n N : Nat) (h : n ≤ N) : valF f n = valF f N % 2 ^ (w * n) := by
  obtain ⟨k, rfl⟩ := Nat.exists_eq_add_of_le h
  rw [valF_add, Nat.add_mul_mod_self_left, Nat.mod_eq_of_lt (valF_lt f n)]

theorem valF_eq_iff (a b : Nat → BitVec w) (n : Nat) :
    valF a n = valF b n ↔ ∀ i, i < n → a i = b i := by
  refine ⟨fun h => ?_, valF_congr a b n⟩
  induction n with
  | zero => exact fun i hi => absurd hi (Nat.not_lt_zero i)
  | succ n ih =>
    have e : valF a n = valF b n := by rw [valF_mod a n _ (Nat.le_succ n), h, ← valF_mod b n _ (Nat.le_succ n)]
    intro i hi
    rcases Nat.lt_succ_iff_lt_or_eq.mp hi with hi | rfl
    · exact ih e i hi
    · rw [valF, valF, e] at h
      exact BitVec.eq_of_toNat_eq (Nat.eq_of_mul_eq_mul_left (Nat.two_pow_pos _) (Nat.add_left_cancel h))

theorem testBit_valF (hw : 0 < w) (f : Nat → BitVec w) (n i : Nat) :
    (valF f n).testBit i = (decide (i < w * n) && (f (i / w)).getLsbD (i % w)) := by
  induction n with
  | zero => rw [valF, Nat.zero_testBit, Nat.mul_zero, decide_eq_false (Nat.not_lt_zero i), Bool.false_and]
  | succ n ih =>
    rw [valF, Nat.add_comm, Nat.testBit_two_pow_mul_add _ (valF_lt f n), Nat.mul_succ]
    by_cases h : i < w * n
    · rw [if_pos h, ih, decide_eq_true h, decide_eq_true (Nat.lt_add_right w h)]
    · obtain ⟨m, rfl⟩ := Nat.exists_eq_add_of_le (Nat.not_lt.mp h)
      rw [if_neg h, Nat.add_sub_cancel_left, ← BitVec.getLsbD]
      by_cases hm : m < w
      · obtain ⟨e1, e2⟩ := div_mod_unique hw n m hm
        rw [decide_eq_true (Nat.add_lt_add_left hm _), Bool.true_and, e1, e2]
      · rw [decide_eq_false (fun c => hm (Nat.lt_of_add_lt_add_left c)), Bool.false_and,
          BitVec.getLsbD_of_ge _ _ (Nat.le_of_not_lt hm)]

theorem valF_eq_mod_of_bits (hw : 0 < w) (f : Nat → BitVec w) (n X : Nat)
    (hf : ∀ i j, i < n → j < w → (f i).getLsbD j = X.testBit (i * w + j)) :
    valF f n = X % 2 ^ (w * n) := by
  apply Nat.eq_of_testBit_eq
  intro i
  rw [testBit_valF hw, Nat.testBit_mod_two_pow]
  by_cases h : i < w * n
  · have h1 : i / w < n := (Nat.div_lt_iff_lt_mul hw).mpr (by rw [Nat.mul_comm]; exact h)
    rw [hf _ _ h1 (Nat.mod_lt i hw), Nat.mul_comm (i / w), Nat.div_add_mod]
  · rw [decide_eq_false h, Bool.false_and, Bool.false_and]

theorem valF_eq_of_bits (hw : 0 < w) (f : Nat → BitVec w) (n X : Nat) (hX : X < 2 ^ (w * n))
    (hf : ∀ i j, i < n → j < w → (f i).getLsbD j = X.testBit (i * w + j)) : valF f n = X := by
  rw [valF_eq_mod_of_bits hw f n X hf, Nat.mod_eq_of_lt hX]

theorem valUpTo_lt (ws : Array (BitVec w)) (n : Nat) : valUpTo ws n < 2 ^ (w * n) :=
  valF_wd ws n ▸ valF_lt (wd ws) n

theorem testBit_valUpTo (hw : 0 < w) (ws : Array (BitVec w)) (n i : Nat) :
    (valUpTo ws n).testBit i = (decide (i < w * n) && bitAt ws i) :=
  valF_wd ws n ▸ testBit_valF hw (wd ws) n i

theorem testBit_valAll (hw : 0 < w) (ws : Array (BitVec w)) (i : Nat) : (valAll ws).testBit i = bitAt ws i := by
  rw [valAll, testBit_valUpTo hw]
  by_cases h : i < w * ws.size
  · rw [decide_eq_true h, Bool.true_and]
  · rw [decide_eq_false h, Bool.false_and, bitAt_oob _ _ (Nat.mul_comm w _ ▸ Nat.le_of_not_lt h) hw]

theorem valUpTo_eq_mod (hw : 0 < w) (ws : Array (BitVec w)) (n : Nat) :
    valUpTo ws n = valAll ws % 2 ^ (w * n) := by
  apply Nat.eq_of_testBit_eq
  intro i
  rw [Nat.testBit_mod_two_pow, testBit_valUpTo hw, testBit_valAll hw]

/-- a word that holds `n` consecutive storage bits from `p` on is that window of the value -/
theorem toNat_window (hw : 0 < w) {k n : Nat} (x : BitVec k) (ws : Array (BitVec w)) (p : Nat)
    (h : ∀ j, x.getLsbD j = (decide (j < n) && bitAt ws (p + j))) : x.toNat = (valAll ws >>> p) % 2 ^ n := by
  apply Nat.eq_of_testBit_eq
  intro j
  rw [← BitVec.getLsbD, h, Nat.testBit_mod_two_pow, Nat.testBit_shiftRight, testBit_valAll hw]

end Bva
