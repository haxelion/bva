import BvaProofs.Base
import BvaProofs.L0Count
/-!
# Bit counts

The two scans are followed by value: the top-down one through `BV.natBits_stack`, the bottom-up one through
`BV.natTz_stack`; the counts of ones are those of zeros on the complemented storage.
-/
namespace Bva
variable {w : Nat}

theorem toNat_eq_zero_iff (x : BitVec w) : x.toNat = 0 ↔ x = 0#w :=
  ⟨fun h => BitVec.eq_of_toNat_eq h, fun h => by rw [h]; rfl⟩

theorem toNat_ne_zero {x : BitVec w} (h : x ≠ 0#w) : x.toNat ≠ 0 :=
  mt (toNat_eq_zero_iff x).mp h

theorem ctz_zero : ctz (0#w) = w := BV.natTz_zero w

/-- a non-empty vector is its `cap - 1` full words and the `lastbit` bits (as the code computes them) of the top word -/
theorem cap_pos_split (hw : 0 < w) (len : Nat) (hc : 0 < capFromBitLen w len) :
    len = w * (capFromBitLen w len - 1) + ((len - 1) % w + 1) := by
  cases len with
  | zero =>
    have h0 : capFromBitLen w 0 ≤ 0 := (cap_le_iff 0 0 hw).mpr (Nat.zero_le _)
    exact absurd hc (Nat.not_lt.mpr h0)
  | succ n =>
    rw [capFromBitLen, Nat.add_right_comm, Nat.add_sub_cancel, Nat.add_div_right _ hw, Nat.add_sub_cancel,
      Nat.add_sub_cancel, ← Nat.add_assoc, Nat.div_add_mod]

theorem cap_zero (hw : 0 < w) (len : Nat) (h : ¬ 0 < capFromBitLen w len) : len = 0 := by
  have := le_cap_mul len hw
  rwa [Nat.eq_zero_of_not_pos h, Nat.zero_mul, Nat.le_zero] at this

theorem cap_pred_lt (hw : 0 < w) {len c : Nat} (hc : 0 < capFromBitLen w len) (hcap : len ≤ c * w) :
    capFromBitLen w len - 1 < c :=
  Nat.lt_of_lt_of_le (Nat.sub_lt hc Nat.one_pos) ((cap_le_iff _ _ hw).mpr hcap)

theorem clz_add_natBits (x : BitVec w) : clz x + BV.natBits x.toNat = w :=
  Nat.sub_add_cancel ((BV.natBits_le_iff _ _).mpr x.isLt)

/-- the leading zeros of `x` within its low `lb` bits -/
theorem clz_sub (x : BitVec w) {lb : Nat} (hlb : lb ≤ w) : clz x - (w - lb) = lb - BV.natBits x.toNat := by
  obtain ⟨e, rfl⟩ := Nat.exists_eq_add_of_le hlb
  rw [clz, Nat.add_sub_cancel_left, Nat.sub_right_comm, Nat.add_sub_cancel]

/-- the scan from the top, with `v` sitting on `i` lower words: what it adds to `count` and the significant bits of
the value seen so far make up `w * i` plus those of `v` -/
theorem leadLoop_natBits (ws : Array (BitVec w)) (i : Nat) : ∀ (v : BitVec w) (count : Nat),
    Raw.leadLoop ws 0#w clz v i count + BV.natBits (valUpTo ws i + 2 ^ (w * i) * v.toNat)
      = count + w * i + BV.natBits v.toNat := by
  induction i with
  | zero =>
    intro v count
    rw [Raw.leadLoop, valUpTo, Nat.mul_zero, Nat.pow_zero, Nat.zero_add, Nat.one_mul, Nat.add_zero]
  | succ i ih =>
    intro v count
    rw [Raw.leadLoop]
    by_cases hv : v = 0#w
    · rw [if_pos hv, hv, BitVec.toNat_zero, Nat.mul_zero, Nat.add_zero, valUpTo]
      show Raw.leadLoop ws 0#w clz (wd ws i) i (count + clz (wd ws i)) + _ = _   -- the `let` of the loop body unfolded
      -- `count + clz x + w * i + natBits x = count + w * (i + 1)`, as `clz x + natBits x = w`
      rw [ih, BV.natBits_zero, Nat.add_zero, Nat.add_right_comm, Nat.add_assoc count, clz_add_natBits, Nat.mul_succ,
        Nat.add_comm (w * i), Nat.add_assoc]
    · rw [if_neg hv, BV.natBits_stack (valUpTo_lt ws _) (toNat_ne_zero hv), Nat.add_assoc]

/-- the scan as `leadingZeros` starts it, on word `q` masked to its low `lb` bits: the leading zeros of the value
below bit `w * q + lb`, whatever lies above -/
theorem leadLoop_masked (hw : 0 < w) (ws : Array (BitVec w)) (q : Nat) {lb : Nat} (hlb : lb ≤ w) :
    Raw.leadLoop ws 0#w clz (wd ws q &&& mask w lb) q (clz (wd ws q &&& mask w lb) - (w - lb))
      = w * q + lb - BV.natBits (valAll ws % 2 ^ (w * q + lb)) := by
  have hv : (wd ws q &&& mask w lb).toNat = (valAll ws >>> (q * w)) % 2 ^ lb :=
    toNat_window hw _ _ _ fun j => by
      rw [BitVec.getLsbD_and, getLsbD_mask, wd_chunks]
      by_cases hj : j < lb
      · rw [decide_eq_true hj, decide_eq_true (Nat.lt_of_lt_of_le hj hlb), Bool.true_and, Bool.true_and, Bool.and_true]
      · rw [decide_eq_false hj, Bool.and_false, Bool.and_false, Bool.false_and]
  generalize wd ws q &&& mask w lb = v at hv ⊢
  have hvb : BV.natBits v.toNat ≤ lb := by
    rw [BV.natBits_le_iff, hv]; exact Nat.mod_lt _ (Nat.two_pow_pos lb)
  -- the masked word on the lower words is the value below bit `w * q + lb`
  have hT : valUpTo ws q + 2 ^ (w * q) * v.toNat = valAll ws % 2 ^ (w * q + lb) := by
    rw [valUpTo_eq_mod hw, hv, Nat.mul_comm q w, Nat.shiftRight_eq_div_pow, ← Nat.mod_mul, ← Nat.pow_add]
  have inv := leadLoop_natBits ws q v (lb - BV.natBits v.toNat)
  rw [hT, Nat.add_right_comm, Nat.sub_add_cancel hvb, Nat.add_comm lb] at inv
  rw [clz_sub v hlb]
  exact Nat.eq_sub_of_add_eq inv

/-- no invariant needed: the code masks the last word and never reads further -/
theorem Raw.leadingZeros_val (s : Raw w) (hw : 0 < w) :
    s.leadingZeros = s.length - BV.natBits (valAll s.data % 2 ^ s.length) := by
  unfold Raw.leadingZeros
  by_cases hc : 0 < capFromBitLen w s.length
  · rw [if_pos hc, leadLoop_masked hw _ _ (Nat.mod_lt _ hw), ← cap_pos_split hw _ hc]
  · rw [if_neg hc, cap_zero hw _ hc, Nat.zero_sub]

theorem Raw.leadingZeros_eq (s : Raw w) (hw : 0 < w) (h : s.Inv) :
    s.leadingZeros = s.abs.leadingZeros := by
  rw [Raw.leadingZeros_val s hw, Nat.mod_eq_of_lt (show valAll s.data < 2 ^ s.length from h.wf hw)]
  rfl

theorem Raw.sigBits_eq (s : Raw w) (hw : 0 < w) (h : s.Inv) : s.sigBits = s.abs.sig := by
  unfold Raw.sigBits
  rw [Raw.leadingZeros_eq s hw h]
  exact Nat.sub_sub_self ((BV.natBits_le_iff _ _).mpr (h.wf hw))

def notArr (ws : Array (BitVec w)) : Array (BitVec w) := ws.map (~~~ ·)

theorem size_notArr (ws : Array (BitVec w)) : (notArr ws).size = ws.size := Array.size_map

theorem wd_notArr (ws : Array (BitVec w)) (i : Nat) (h : i < ws.size) : wd (notArr ws) i = ~~~ wd ws i :=
  (wd_map ws _ i).trans (if_pos h)

theorem bitAt_notArr (ws : Array (BitVec w)) (j : Nat) (hw : 0 < w) (h : j < ws.size * w) :
    bitAt (notArr ws) j = !bitAt ws j := by
  unfold bitAt
  rw [wd_notArr ws _ (div_lt_of_lt_mul j ws.size hw h), BitVec.getLsbD_not, decide_eq_true (Nat.mod_lt j hw),
    Bool.true_and]

theorem eq_allOnes_iff (v : BitVec w) : (v = BitVec.allOnes w) ↔ (~~~v = 0#w) := by
  rw [BitVec.not_eq_comm, BitVec.not_zero]

theorem leadLoop_not (ws : Array (BitVec w)) (i : Nat) :
    ∀ (v : BitVec w) (count : Nat), i ≤ ws.size →
      Raw.leadLoop ws (BitVec.allOnes w) clo v i count = Raw.leadLoop (notArr ws) 0#w clz (~~~v) i count := by
  induction i with
  | zero => intro v count _; rfl
  | succ i ih =>
    intro v count hi
    simp only [Raw.leadLoop]
    by_cases hv : v = BitVec.allOnes w
    · subst hv
      simp only [BitVec.not_allOnes, if_true]
      rw [ih _ _ (Nat.le_of_succ_le hi), wd_notArr ws i hi]
      rfl
    · have hv' : ¬ (~~~v = 0#w) := fun h => hv ((eq_allOnes_iff v).mpr h)
      simp only [hv, hv', if_false]

theorem Raw.leadingOnes_eq_not (s : Raw w) (hw : 0 < w) (hcap : s.length ≤ s.data.size * w) :
    s.leadingOnes = Raw.leadingZeros ⟨notArr s.data, s.length⟩ := by
  unfold Raw.leadingOnes Raw.leadingZeros
  dsimp only
  split
  · rename_i hc
    have hq := cap_pred_lt hw hc hcap
    simp only [leadLoop_not _ _ _ _ (Nat.le_of_lt hq), wd_notArr _ _ hq, clo, BitVec.not_or, BitVec.not_not]
  · rfl

theorem valAll_notArr_mod (s : Raw w) (hw : 0 < w) (h : s.Inv) :
    valAll (notArr s.data) % 2 ^ s.length = s.abs.not.val := by
  apply Nat.eq_of_testBit_eq
  intro j
  rw [Nat.testBit_mod_two_pow, testBit_valAll hw, ← BV.bit, BV.not_bit _ (h.wf hw), Raw.abs_bit s j hw, Raw.abs_len]
  exact gate_congr Iff.rfl fun hj => bitAt_notArr _ _ hw (Nat.lt_of_lt_of_le hj h.1)

theorem Raw.leadingOnes_eq (s : Raw w) (hw : 0 < w) (h : s.Inv) :
    s.leadingOnes = s.abs.leadingOnes := by
  rw [Raw.leadingOnes_eq_not s hw h.1, Raw.leadingZeros_val _ hw]
  show s.length - BV.natBits (valAll (notArr s.data) % 2 ^ s.length) = _   -- projections of the pair reduced
  rw [valAll_notArr_mod s hw h]
  rfl

theorem toNat_wd (hw : 0 < w) (ws : Array (BitVec w)) (i : Nat) :
    (wd ws i).toNat = (valAll ws >>> (w * i)) % 2 ^ w := by
  rw [Nat.mul_comm]
  exact toNat_window hw _ ws (i * w) (wd_chunks ws i)

theorem shiftRight_valAll_succ (hw : 0 < w) (ws : Array (BitVec w)) (i : Nat) :
    valAll ws >>> (w * i) = (wd ws i).toNat + 2 ^ w * (valAll ws >>> (w * (i + 1))) := by
  rw [toNat_wd hw, Nat.mul_succ, Nat.shiftRight_add, Nat.shiftRight_eq_div_pow _ w, Nat.mod_add_div]

/-- what the callers do with the result of `trailLoop` (their `match` on it, definitionally) -/
def trailFinal (ws : Array (BitVec w)) (stop : BitVec w) (cnt : BitVec w → Nat) (lb : Nat)
    (r : BitVec w × Nat × Nat) : Nat :=
  if r.1 = stop then r.2.2 + min (cnt (wd ws r.2.1)) lb else r.2.2

/-- the scan from the bottom, as one equation: while the last word seen is zero, what is still to be added to
`count` is the trailing-zero count of the value above the `i` words read, `d` more full words and `lb` bits -/
theorem trailLoop_natTz (hw : 0 < w) (ws : Array (BitVec w)) (last lb : Nat) (hlb : lb ≤ w)
    (v : BitVec w) (i count : Nat) : ∀ d, last = i + d →
    trailFinal ws 0#w ctz lb (Raw.trailLoop ws 0#w ctz last v i count)
      = count + if v = 0#w then BV.natTz (w * d + lb) (valAll ws >>> (w * i)) else 0 := by
  fun_induction Raw.trailLoop ws 0#w ctz last v i count with
  | case1 v i count hc v' ih =>
    intro d hd
    -- `i < last = i + d`: at least one more word
    obtain ⟨d, rfl⟩ := Nat.exists_eq_succ_of_ne_zero fun h0 : d = 0 => Nat.ne_of_lt hc.2 (by rw [hd, h0]; rfl)
    have e1 : w * (d + 1) + lb = w + (w * d + lb) := by rw [Nat.mul_succ, Nat.add_comm (w * d) w, Nat.add_assoc]
    rw [ih d (by rw [hd, Nat.add_right_comm]; rfl), if_pos hc.1, e1, shiftRight_valAll_succ hw ws i,
      BV.natTz_stack _ _ w _ v'.isLt, Nat.add_assoc]
    by_cases hv : v' = 0#w
    · rw [if_pos hv, if_pos ((toNat_eq_zero_iff _).mpr hv), hv, ctz_zero]
    · rw [if_neg hv, if_neg (toNat_ne_zero hv), Nat.add_zero]; rfl
  | case2 v i count hc =>
    intro d hd
    unfold trailFinal
    by_cases hv : v = 0#w
    · have hd0 : d = 0 := Nat.eq_zero_of_not_pos fun h => hc ⟨hv, hd ▸ Nat.lt_add_of_pos_right h⟩
      rw [if_pos hv, if_pos hv, hd0, Nat.mul_zero, Nat.zero_add, BV.natTz_mod lb w _ hlb, ← toNat_wd hw]
      rfl
    · rw [if_neg hv, if_neg hv, Nat.add_zero]

theorem Raw.trailingZeros_val (s : Raw w) (hw : 0 < w) : s.trailingZeros = BV.natTz s.length (valAll s.data) := by
  unfold Raw.trailingZeros
  by_cases hc : 0 < capFromBitLen w s.length
  · have := trailLoop_natTz hw s.data (capFromBitLen w s.length - 1) _ (Nat.mod_lt (s.length - 1) hw) 0#w 0 0 _
      (Nat.zero_add _).symm
    rw [if_pos rfl, Nat.zero_add, Nat.mul_zero, Nat.shiftRight_zero, ← cap_pos_split hw _ hc] at this
    rw [if_pos hc]
    exact this
  · rw [if_neg hc, cap_zero hw _ hc]
    rfl

theorem Raw.trailingZeros_eq (s : Raw w) (hw : 0 < w) (_h : s.Inv) :
    s.trailingZeros = s.abs.trailingZeros := Raw.trailingZeros_val s hw

theorem trailLoop_step (ws : Array (BitVec w)) (stop : BitVec w) (cnt : BitVec w → Nat) (last : Nat)
    (v : BitVec w) (i count : Nat) (h : v = stop ∧ i < last) :
    Raw.trailLoop ws stop cnt last v i count =
      Raw.trailLoop ws stop cnt last (wd ws i) (i + 1) (count + cnt (wd ws i)) := by
  rw [Raw.trailLoop]; simp only [h, and_self, dif_pos]

theorem trailLoop_stop (ws : Array (BitVec w)) (stop : BitVec w) (cnt : BitVec w → Nat) (last : Nat)
    (v : BitVec w) (i count : Nat) (h : ¬ (v = stop ∧ i < last)) :
    Raw.trailLoop ws stop cnt last v i count = (v, i, count) := by
  rw [Raw.trailLoop]; simp only [h, dif_neg, not_false_eq_true]

theorem trailLoop_not (ws : Array (BitVec w)) (last lb : Nat) (hl : last < ws.size) (v : BitVec w) (i count : Nat) :
    i ≤ last →
    trailFinal ws (BitVec.allOnes w) cto lb (Raw.trailLoop ws (BitVec.allOnes w) cto last v i count) =
      trailFinal (notArr ws) 0#w ctz lb (Raw.trailLoop (notArr ws) 0#w ctz last (~~~v) i count) := by
  fun_induction Raw.trailLoop ws (BitVec.allOnes w) cto last v i count with
  | case1 v i count hc v' ih =>
    intro hi
    have hc' : ~~~v = 0#w ∧ i < last := ⟨(eq_allOnes_iff v).mp hc.1, hc.2⟩
    rw [trailLoop_step (notArr ws) 0#w ctz last (~~~v) i count hc', wd_notArr ws i (Nat.lt_trans hc.2 hl)]
    exact ih hc.2
  | case2 v i count hc =>
    intro hi
    have hc' : ¬ (~~~v = 0#w ∧ i < last) := fun h => hc ⟨(eq_allOnes_iff v).mpr h.1, h.2⟩
    rw [trailLoop_stop (notArr ws) 0#w ctz last (~~~v) i count hc']
    unfold trailFinal
    simp only [eq_allOnes_iff v, wd_notArr ws i (Nat.lt_of_le_of_lt hi hl)]
    rfl

theorem Raw.trailingOnes_eq_not (s : Raw w) (hw : 0 < w) (hcap : s.length ≤ s.data.size * w) :
    s.trailingOnes = Raw.trailingZeros ⟨notArr s.data, s.length⟩ := by
  unfold Raw.trailingOnes Raw.trailingZeros
  dsimp only
  by_cases hc : 0 < capFromBitLen w s.length
  · have := trailLoop_not s.data _ ((s.length - 1) % w + 1) (cap_pred_lt hw hc hcap) (BitVec.allOnes w) 0 0
      (Nat.zero_le _)
    rw [BitVec.not_allOnes] at this
    rw [if_pos hc, if_pos hc]
    exact this
  · rw [if_neg hc, if_neg hc]

theorem Raw.trailingOnes_eq (s : Raw w) (hw : 0 < w) (h : s.Inv) :
    s.trailingOnes = s.abs.trailingOnes := by
  rw [Raw.trailingOnes_eq_not s hw h.1, Raw.trailingZeros_val _ hw]
  show BV.natTz s.length (valAll (notArr s.data)) = _   -- projections of the pair reduced
  rw [← BV.natTz_mod_self, valAll_notArr_mod s hw h]
  rfl

theorem valUpTo_eq_zero_iff (ws : Array (BitVec w)) (n : Nat) :
    valUpTo ws n = 0 ↔ ∀ i, i < n → wd ws i = 0#w := by
  have h := valF_eq_iff (wd ws) (fun _ => 0#w) n
  rwa [valF_wd, valF_zero _ n fun _ _ => rfl] at h

/-- holds without the invariant: `Bvf::is_zero` tests all `N` words and `abs` reads all storage -/
theorem Bvf.isZero_eq_any (s : Raw w) : Bvf.isZero s = s.abs.isZero := by
  rw [Bool.eq_iff_iff]
  unfold Bvf.isZero BV.isZero Raw.abs valAll
  simp only [Array.all_eq_true, beq_iff_eq, valUpTo_eq_zero_iff]
  constructor
  · intro h i hi; exact (Array.getElem_eq_getD 0#w).symm.trans (h i hi)
  · intro h i hi; exact (Array.getElem_eq_getD 0#w).trans (h i hi)

theorem Bvf.isZero_eq (s : Raw w) (_hw : 0 < w) (_h : s.Inv) : Bvf.isZero s = s.abs.isZero :=
  Bvf.isZero_eq_any s

/-- `Bvd::is_zero` looks at the used words only; the invariant says the others are zero -/
theorem Bvd.isZero_eq (s : Raw 64) (h : s.Inv) : Bvd.isZero s = s.abs.isZero := by
  have hw : 0 < 64 := by decide
  have hv : valUpTo s.data (Bvd.capW s.length) = s.abs.val :=
    h.valUpTo_eq hw _ (le_mul_cap s.length hw)
  rw [Bool.eq_iff_iff]
  unfold Bvd.isZero BV.isZero
  simp only [List.all_eq_true, List.mem_range, beq_iff_eq]
  rw [← hv, valUpTo_eq_zero_iff]

end Bva
