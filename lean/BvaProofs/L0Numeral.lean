import BvaProofs.L0
/-!
`BV.numeral b v` is the `n` low digits of `v` (`fmt_digs`) for its digit count `n` (`fmt_IsNDig`), hence read back by `fmt_digitsVal`;
a formatter that drops the zero top digits of a longer string (`fmt_skip`) builds the same string (`fmt_digs_skip_eq_numeral`).
The end of the file is what `Fmt.lean` needs to read the formatters' loops in these terms: bits as digits in base 2 and 8,
the `last_nz` fold of `Octal::fmt`.
-/
namespace Bva

/-- `n` is the number of base-`b` digits of `v` (`0` for `v = 0`) -/
def fmt_IsNDig (b v n : Nat) : Prop := v < b ^ n ∧ (n = 0 ∨ b ^ (n - 1) ≤ v)

/-- the `n` low base-`b` digits of `v`, most significant first, as characters -/
def fmt_digs (b : Nat) (upper : Bool) (v n : Nat) : List Char :=
  (List.range n).reverse.map fun j => BV.digitChar upper (v / b ^ j % b)

theorem fmt_digs_zero (b : Nat) (upper : Bool) (v : Nat) : fmt_digs b upper v 0 = [] := rfl

theorem fmt_digs_succ_msd (b : Nat) (upper : Bool) (v n : Nat) :
    fmt_digs b upper v (n + 1) = BV.digitChar upper (v / b ^ n % b) :: fmt_digs b upper v n := by
  unfold fmt_digs
  rw [List.range_succ, List.reverse_append]
  rfl

theorem fmt_digs_succ_lsd (b : Nat) (upper : Bool) (v n : Nat) :
    fmt_digs b upper v (n + 1) = fmt_digs b upper (v / b) n ++ [BV.digitChar upper (v % b)] := by
  unfold fmt_digs
  rw [List.range_succ_eq_map, List.reverse_cons, List.map_append, ← List.map_reverse, List.map_map]
  congr 1
  · apply List.map_congr_left
    intro j _
    simp only [Function.comp, Nat.succ_eq_add_one]
    rw [Nat.div_div_eq_div_mul, Nat.pow_succ']
  · simp only [List.map_cons, List.map_nil, Nat.pow_zero, Nat.div_one]

theorem fmt_IsNDig.le {b v m : Nat} (h : fmt_IsNDig b v (m + 1)) : b ^ m ≤ v :=
  h.2.resolve_left (Nat.succ_ne_zero m)

theorem fmt_IsNDig_zero_iff {b v n : Nat} (hb : 2 ≤ b) (h : fmt_IsNDig b v n) : n = 0 ↔ v = 0 := by
  constructor
  · intro h0
    have := h.1
    rw [h0, Nat.pow_zero] at this
    exact Nat.lt_one_iff.mp this
  · intro h0
    cases n with
    | zero => rfl
    | succ m => exact absurd (h0 ▸ h.le) (Nat.not_le.mpr (Nat.pow_pos (Nat.zero_lt_of_lt hb)))

theorem fmt_IsNDig_div {b v m : Nat} (hb : 2 ≤ b) (h : fmt_IsNDig b v (m + 1)) : fmt_IsNDig b (v / b) m := by
  have hb0 : 0 < b := Nat.zero_lt_of_lt hb
  refine ⟨(Nat.div_lt_iff_lt_mul hb0).mpr (by rw [← Nat.pow_succ]; exact h.1), ?_⟩
  cases m with
  | zero => exact Or.inl rfl
  | succ k => exact Or.inr ((Nat.le_div_iff_mul_le hb0).mpr (by rw [← Nat.pow_succ]; exact h.le))

theorem fmt_IsNDig_le_succ {b v n : Nat} (hb : 2 ≤ b) (h : fmt_IsNDig b v n) : n ≤ v + 1 := by
  cases n with
  | zero => exact Nat.zero_le _
  | succ m => exact Nat.succ_le_succ (Nat.le_of_lt (Nat.lt_of_lt_of_le (Nat.lt_pow_self hb) h.le))

theorem fmt_numeralAux_eq (b : Nat) (upper : Bool) (hb : 2 ≤ b) (fuel : Nat) :
    ∀ (v n : Nat) (acc : List Char), fmt_IsNDig b v n → n ≤ fuel →
      BV.numeralAux b upper fuel v acc = fmt_digs b upper v n ++ acc := by
  induction fuel with
  | zero =>
    intro v n acc _ hn
    rw [Nat.le_zero.mp hn]; rfl
  | succ fuel ih =>
    intro v n acc h hn
    unfold BV.numeralAux
    by_cases hv : v = 0
    · rw [if_pos hv, (fmt_IsNDig_zero_iff hb h).mpr hv]; rfl
    · rw [if_neg hv]
      obtain ⟨m, rfl⟩ := Nat.exists_eq_succ_of_ne_zero (mt (fmt_IsNDig_zero_iff hb h).mp hv)
      rw [ih (v / b) m _ (fmt_IsNDig_div hb h) (Nat.le_of_succ_le_succ hn), fmt_digs_succ_lsd, List.append_assoc]
      rfl

theorem fmt_numeral_eq (b : Nat) (upper : Bool) (hb : 2 ≤ b) (v n : Nat) (h : fmt_IsNDig b v n) :
    BV.numeral b upper v = if n = 0 then ['0'] else fmt_digs b upper v n := by
  unfold BV.numeral
  by_cases hv : v = 0
  · rw [if_pos hv, if_pos ((fmt_IsNDig_zero_iff hb h).mpr hv)]
  · rw [if_neg hv, if_neg (mt (fmt_IsNDig_zero_iff hb h).mp hv),
      fmt_numeralAux_eq b upper hb (v + 1) v n [] h (fmt_IsNDig_le_succ hb h), List.append_nil]

/-- scan down from `n` to the first index `i` with `p (i-1)`; `0` if none -/
def fmt_skip (p : Nat → Bool) : Nat → Nat
  | 0 => 0
  | i + 1 => if p i then i + 1 else fmt_skip p i

theorem fmt_skip_le (p : Nat → Bool) (n : Nat) : fmt_skip p n ≤ n := by
  induction n with
  | zero => exact Nat.le_refl 0
  | succ n ih =>
    rw [fmt_skip]
    split
    · exact Nat.le_refl _
    · exact Nat.le_succ_of_le ih

theorem lt_pow_of_digit_eq_zero {b v j : Nat} (hb : 2 ≤ b) (h : v < b ^ (j + 1)) (hd : v / b ^ j % b = 0) :
    v < b ^ j := by
  have hpos : 0 < b ^ j := Nat.pow_pos (Nat.zero_lt_of_lt hb)
  have hlt : v / b ^ j < b := (Nat.div_lt_iff_lt_mul hpos).mpr (by rw [Nat.mul_comm, ← Nat.pow_succ]; exact h)
  rw [Nat.mod_eq_of_lt hlt] at hd
  exact (Nat.div_eq_zero_iff_lt hpos).mp hd

theorem fmt_skip_IsNDig {b v n : Nat} (hb : 2 ≤ b) (h : v < b ^ n) :
    fmt_IsNDig b v (fmt_skip (fun j => v / b ^ j % b != 0) n) := by
  induction n with
  | zero => exact ⟨h, Or.inl rfl⟩
  | succ n ih =>
    rw [fmt_skip]
    by_cases hd : v / b ^ n % b = 0
    · rw [if_neg (by rw [hd]; exact Bool.false_ne_true)]
      exact ih (lt_pow_of_digit_eq_zero hb h hd)
    · rw [if_pos (bne_iff_ne.mpr hd)]
      refine ⟨h, Or.inr (Nat.le_of_not_lt fun (hlt : v < b ^ n) => hd ?_)⟩
      rw [Nat.div_eq_of_lt hlt, Nat.zero_mod]

theorem fmt_IsNDig_exists (b : Nat) (hb : 2 ≤ b) (v : Nat) : ∃ n, fmt_IsNDig b v n :=
  ⟨_, fmt_skip_IsNDig hb (Nat.lt_pow_self hb)⟩

/-- inverse of `BV.digitChar` (either case) -/
def fmt_digitVal (c : Char) : Nat :=
  if c.toNat < 58 then c.toNat - 48 else if c.toNat < 97 then c.toNat - 55 else c.toNat - 87

/-- evaluate a most-significant-first digit string -/
def fmt_digitsVal (base : Nat) (cs : List Char) : Nat :=
  cs.foldl (fun acc c => acc * base + fmt_digitVal c) 0

theorem fmt_digitVal_digitChar (upper : Bool) (d : Nat) (hd : d < 16) :
    fmt_digitVal (BV.digitChar upper d) = d := by
  have h : ∀ (u : Bool) (d : Fin 16), fmt_digitVal (BV.digitChar u d.val) = d.val := by decide
  exact h upper ⟨d, hd⟩

theorem BV.digitChar_eq_zero (upper : Bool) (d : Nat) (hd : d < 16) (h0 : BV.digitChar upper d = '0') :
    d = 0 :=
  (fmt_digitVal_digitChar upper d hd).symm.trans (congrArg fmt_digitVal h0)

theorem foldl_fmt_digs (b : Nat) (upper : Bool) (hb : 2 ≤ b) (hb' : b ≤ 16) (v n : Nat) :
    ∀ acc, (fmt_digs b upper v n).foldl (fun acc c => acc * b + fmt_digitVal c) acc = acc * b ^ n + v % b ^ n := by
  induction n with
  | zero => intro acc; rw [fmt_digs_zero, List.foldl_nil, Nat.pow_zero, Nat.mul_one, Nat.mod_one, Nat.add_zero]
  | succ n ih =>
    intro acc
    rw [fmt_digs_succ_msd, List.foldl_cons, ih,
      fmt_digitVal_digitChar upper _ (Nat.lt_of_lt_of_le (Nat.mod_lt _ (Nat.zero_lt_of_lt hb)) hb'),
      -- with `d` the top digit and `r = v % b ^ n`: `(acc * b + d) * b ^ n + r = acc * (b ^ n * b) + (r + b ^ n * d)`
      Nat.mod_pow_succ, Nat.pow_succ, Nat.add_mul, Nat.mul_assoc, Nat.mul_comm b (b ^ n),
      Nat.mul_comm (v / b ^ n % b), Nat.add_assoc, Nat.add_comm (b ^ n * _)]

theorem BV.numeral_zero (base : Nat) (upper : Bool) : BV.numeral base upper 0 = ['0'] := rfl

theorem BV.numeral_head (base : Nat) (upper : Bool) (hb : 2 ≤ base) (hb' : base ≤ 16) (v : Nat) (hv : v ≠ 0) :
    ∃ c cs, BV.numeral base upper v = c :: cs ∧ c ≠ '0' := by
  obtain ⟨n, hn⟩ := fmt_IsNDig_exists base hb v
  have hn0 : n ≠ 0 := mt (fmt_IsNDig_zero_iff hb hn).mp hv
  rw [fmt_numeral_eq base upper hb v n hn, if_neg hn0]
  obtain ⟨m, rfl⟩ := Nat.exists_eq_succ_of_ne_zero hn0
  rw [fmt_digs_succ_msd]
  refine ⟨_, _, rfl, fun h0 => ?_⟩
  have hd := BV.digitChar_eq_zero upper _ (Nat.lt_of_lt_of_le (Nat.mod_lt _ (Nat.zero_lt_of_lt hb)) hb') h0
  exact Nat.lt_irrefl _ (Nat.lt_of_lt_of_le (lt_pow_of_digit_eq_zero hb hn.1 hd) hn.le)

theorem BV.numeral_valid (base : Nat) (upper : Bool) (hb : 2 ≤ base) (v : Nat) :
    ∀ c ∈ BV.numeral base upper v, ∃ d, d < base ∧ c = BV.digitChar upper d := by
  obtain ⟨n, hn⟩ := fmt_IsNDig_exists base hb v
  rw [fmt_numeral_eq base upper hb v n hn]
  intro c hc
  by_cases hn0 : n = 0
  · rw [if_pos hn0] at hc
    simp only [List.mem_singleton] at hc
    exact ⟨0, Nat.zero_lt_of_lt hb, by rw [hc]; rfl⟩
  · rw [if_neg hn0] at hc
    unfold fmt_digs at hc
    obtain ⟨j, _, rfl⟩ := List.mem_map.mp hc
    exact ⟨_, Nat.mod_lt _ (Nat.zero_lt_of_lt hb), rfl⟩

theorem BV.numeral_digitsVal (base : Nat) (upper : Bool) (hb : 2 ≤ base) (hb' : base ≤ 16) (v : Nat) :
    fmt_digitsVal base (BV.numeral base upper v) = v := by
  obtain ⟨n, hn⟩ := fmt_IsNDig_exists base hb v
  rw [fmt_numeral_eq base upper hb v n hn]
  by_cases hn0 : n = 0
  · rw [if_pos hn0, (fmt_IsNDig_zero_iff hb hn).mp hn0]
    simp only [fmt_digitsVal, List.foldl_cons, List.foldl_nil, Nat.zero_mul, Nat.zero_add]
    decide
  · rw [if_neg hn0]
    unfold fmt_digitsVal
    rw [foldl_fmt_digs base upper hb hb', Nat.mod_eq_of_lt hn.1, Nat.zero_mul, Nat.zero_add]

theorem BV.numeral_injective (base : Nat) (upper : Bool) (hb : 2 ≤ base) (hb' : base ≤ 16) (v1 v2 : Nat)
    (h : BV.numeral base upper v1 = BV.numeral base upper v2) : v1 = v2 := by
  rw [← BV.numeral_digitsVal base upper hb hb' v1, h, BV.numeral_digitsVal base upper hb hb' v2]

theorem testBit_eq_digit (v j : Nat) : v.testBit j = (v / 2 ^ j % 2 != 0) := by
  rw [Nat.testBit_eq_decide_div_mod_eq]
  rcases Nat.mod_two_eq_zero_or_one (v / 2 ^ j) with h | h <;> rw [h] <;> rfl

/-- the character `Raw.binDigits` (`BvaModel/Kernels.lean`) writes for a bit, in the words of `BV.numeral` -/
theorem binChar_eq_digitChar (u : Nat) : (if (u % 2 != 0) = true then '1' else '0') = BV.digitChar false (u % 2) := by
  rcases Nat.mod_two_eq_zero_or_one u with h | h <;> rw [h] <;> rfl

/-- the digit `Raw.octDigits` assembles from three bits is digit `t` of the value in base 8 -/
theorem octDigit_eq (v t : Nat) :
    4 * (v.testBit (3 * t + 2)).toNat + 2 * (v.testBit (3 * t + 1)).toNat + (v.testBit (3 * t)).toNat
      = v / 8 ^ t % 8 := by
  -- `v / 2 ^ (3 * t) % 2 ^ 3`, one bit at a time
  rw [show (8 : Nat) = 2 ^ 3 from rfl, ← Nat.pow_mul, Nat.mod_pow_succ, Nat.mod_pow_succ, Nat.pow_one,
    Nat.div_div_eq_div_mul, Nat.div_div_eq_div_mul, ← Nat.pow_add, ← Nat.pow_succ,
    Nat.toNat_testBit, Nat.toNat_testBit, Nat.toNat_testBit, Nat.add_comm, Nat.add_comm (4 * _), Nat.add_assoc]

theorem fmt_isEmpty_digs (b : Nat) (upper : Bool) (v n : Nat) :
    (fmt_digs b upper v n).isEmpty = decide (n = 0) := by
  cases n with
  | zero => rfl
  | succ n => rw [fmt_digs_succ_msd]; rfl

/-- what the formatters build from the digits of `v < b^n`: the zero top digits skipped, `"0"` if none is left -/
theorem fmt_digs_skip_eq_numeral (b : Nat) (upper : Bool) (hb : 2 ≤ b) (v n : Nat) (hv : v < b ^ n) :
    (if (fmt_digs b upper v (fmt_skip (fun j => v / b ^ j % b != 0) n)).isEmpty = true then ['0']
      else fmt_digs b upper v (fmt_skip (fun j => v / b ^ j % b != 0) n)) = BV.numeral b upper v := by
  rw [fmt_numeral_eq b upper hb _ _ (fmt_skip_IsNDig hb hv), fmt_isEmpty_digs]
  simp only [decide_eq_true_eq]

theorem foldl_congr_of_mem {α β : Type} (f g : β → α → β) (l : List α) (h : ∀ b a, a ∈ l → f b a = g b a) :
    ∀ b, l.foldl f b = l.foldl g b := by
  induction l with
  | nil => intro b; rfl
  | cons a l ih =>
    intro b
    rw [List.foldl_cons, h b a (List.mem_cons_self ..)]
    exact ih (fun b a' ha => h b a' (List.mem_cons_of_mem _ ha)) _

/-- the `last_nz` fold of `Raw.octDigits` (index of the last non-zero digit, `0` if none) is `fmt_skip` less one -/
theorem foldl_lastNz_eq (d : Nat → Nat) (n : Nat) :
    (List.range n).foldl (fun acc t => if d t ≠ 0 then t else acc) 0 = fmt_skip (fun j => d j != 0) n - 1 := by
  induction n with
  | zero => rfl
  | succ n ih =>
    rw [List.range_succ, List.foldl_append, ih, List.foldl_cons, List.foldl_nil, fmt_skip]
    by_cases h : d n = 0
    · rw [if_neg (not_not_intro h), if_neg (by rw [h]; exact Bool.false_ne_true)]
    · rw [if_pos h, if_pos (bne_iff_ne.mpr h)]; rfl

/-- the shape of `Octal::fmt`: all `n` digits are computed, the last non-zero one is found (`last_nz`, `0` if there is none)
and the digits up to it are kept -/
theorem fmt_take_lastNz_eq_numeral (b : Nat) (upper : Bool) (hb : 2 ≤ b) (v n : Nat) (hv : v < b ^ n) :
    let digs := (List.range n).map fun t => v / b ^ t % b
    let lastNz := (List.range n).foldl (fun acc t => if digs.getD t 0 ≠ 0 then t else acc) 0
    (((if digs.isEmpty then [0] else digs).take (lastNz + 1)).reverse).map (BV.digitChar upper) = BV.numeral b upper v := by
  intro digs lastNz
  cases n with
  | zero =>
    -- no digits: the code substitutes `[0]`, and the value is zero
    cases Nat.lt_one_iff.mp hv
    rfl
  | succ n =>
    have hnd := fmt_skip_IsNDig hb hv
    have hr := fmt_skip_le (fun j => v / b ^ j % b != 0) (n + 1)
    -- `last_nz` looks the digits up in the list; look at the value instead, then it is `fmt_skip … - 1`
    have hl : lastNz = fmt_skip (fun j => v / b ^ j % b != 0) (n + 1) - 1 := by
      rw [← foldl_lastNz_eq]
      refine foldl_congr_of_mem _ _ _ (fun acc t ht => ?_) 0
      rw [List.getD_eq_getElem?_getD, List.getElem?_map, List.getElem?_range (List.mem_range.mp ht)]
      rfl
    have hne : digs.isEmpty = false := by
      show (List.map _ (List.range (n + 1))).isEmpty = false   -- `digs` unfolded
      rw [List.range_succ_eq_map]; rfl
    rw [fmt_numeral_eq b upper hb _ _ hnd, hl, hne, if_neg Bool.false_ne_true]
    generalize fmt_skip (fun j => v / b ^ j % b != 0) (n + 1) = r at hnd hr
    -- of the `r` significant digits the code keeps `r - 1 + 1`, which is `r` unless `r = 0`
    cases r with
    | zero =>
      -- then the value is zero, and the one digit kept is `0`
      cases (fmt_IsNDig_zero_iff hb hnd).mp rfl
      show (List.take 1 (List.map _ (List.range (n + 1)))).reverse.map _ = _   -- `digs` unfolded
      rw [List.range_succ_eq_map]
      show [BV.digitChar upper (0 / b ^ 0 % b)] = ['0']   -- the one element taken, evaluated
      rw [Nat.zero_div, Nat.zero_mod]
      rfl
    | succ r =>
      rw [Nat.add_sub_cancel, if_neg (Nat.succ_ne_zero r), ← List.map_take, List.take_range, Nat.min_eq_left hr,
        ← List.map_reverse, List.map_map]
      rfl

end Bva
