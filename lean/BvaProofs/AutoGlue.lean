import BvaProofs.Rot
import BvaProofs.Splice
import BvaProofs.Div
import BvaProofs.Bytes
/-!
`Bv` from the `Bvf<u64,2>` and `Bvd` lemmas: it never fails for lack of capacity (it moves to the heap first), and the storage
mode does not show in `abs`.  Four shapes recur: a constructor choosing an arm (`Bv.ite_refines`), the same body on both arms
(`Bv.mapRaw_refines`), an edit after `reserve` (`Bv.grown_ok`), a growing edit with promotion (`Bv.splice_ok`).
-/
namespace Bva

theorem ag_abs_len (s : Bv) : s.abs.len = s.len := rfl

theorem Bv.len_le_capacity (s : Bv) (h : div_BvInv s) : s.len ≤ s.capacity := by
  cases s with
  | fixed b => exact (h.2 ▸ h.1.1 : b.length ≤ 2 * 64)
  | dynamic b => exact h.1

theorem Bv.zeros_capacity (n : Nat) :
    (Bv.zeros n).capacity = if n ≤ 128 then 128 else capFromBitLen 64 n * 64 := by
  by_cases h : n ≤ 128
  · rw [if_pos h, show Bv.zeros n = _ from if_pos h]
    rfl
  · rw [if_neg h, show Bv.zeros n = _ from if_neg h]
    exact congrArg (· * 64) (Bvd.zeros_refines n).2.2

/-- demotion: a `Bvd` of at most 128 bits converts to a `Bvf<u64,2>` without fail -/
theorem Bvf.fromBvd_inline (b : Raw 64) (hb : b.Inv) (hl : b.length ≤ 128) :
    ∃ r, Bvf.fromBvd 64 2 b = .ok r ∧ r.Inv ∧ r.abs = b.abs ∧ r.data.size = 2 :=
  (Bvf.fromBvd_spec (w := 64) 2 b compat64 hb).2 (Nat.not_lt.mpr hl)

/-- `Bv::reserve`: a `Fixed` that cannot hold `len + k` bits moves to the heap; the value is unchanged and
afterwards `len + k` bits fit. -/
theorem Bv.reserve_refines (s : Bv) (k : Nat) (h : div_BvInv s) :
    div_BvInv (s.reserve k) ∧ (s.reserve k).abs = s.abs ∧ s.len + k ≤ (s.reserve k).capacity := by
  cases s with
  | fixed b =>
    by_cases hn : b.length + k > 128
    · rw [show (Bv.fixed b).reserve k = _ from if_pos hn]
      obtain ⟨f1, f2, _⟩ := Bvd.fromBvf_refines b compat64 h.1
      obtain ⟨r1, r2, r3, _⟩ := Bvd.reserve_refines (Bvd.fromBvf b) k f1
      exact ⟨r1, r2.trans f2, r3⟩
    · rw [show (Bv.fixed b).reserve k = _ from if_neg hn]
      exact ⟨h, rfl, Nat.le_of_not_lt hn⟩
  | dynamic b => exact let r := Bvd.reserve_refines b k h; ⟨r.1, r.2.1, r.2.2.1⟩

/-- `Bv::shrink_to_fit`: a `Dynamic` of at most 128 bits is demoted to `Fixed` (the conversion cannot fail);
the capacity afterwards is that of a freshly built vector of the same length. -/
theorem Bv.shrinkToFit_refines (s : Bv) (h : div_BvInv s) :
    div_BvInv s.shrinkToFit ∧ s.shrinkToFit.abs = s.abs ∧
      s.shrinkToFit.capacity = (Bv.zeros s.len).capacity := by
  rw [Bv.zeros_capacity]
  cases s with
  | fixed b => exact ⟨h, rfl, (if_pos (Bv.len_le_capacity _ h)).symm⟩
  | dynamic b =>
    by_cases hl : b.length ≤ 128
    · obtain ⟨r, e, r1, r2, r3⟩ := Bvf.fromBvd_inline b h hl
      rw [show (Bv.dynamic b).shrinkToFit = _ from if_pos hl, e]
      exact ⟨⟨r1, r3⟩, r2, (if_pos hl).symm⟩
    · obtain ⟨r1, r2, r3⟩ := Bvd.shrinkToFit_refines b h
      rw [show (Bv.dynamic b).shrinkToFit = _ from if_neg hl]
      exact ⟨r1, r2, (congrArg (· * 64) r3).trans (if_neg hl).symm⟩

/-- the shape of every `Bv` constructor: inline when `c` (and then the `Bvf<u64,2>` constructor cannot fail), on the heap
otherwise -/
theorem Bv.ite_refines {c : Prop} [Decidable c] {rf : Res (Raw 64)} {rd : Raw 64} {spec : BV}
    (hf : c → ∃ r, rf = .ok r ∧ r.Inv ∧ r.abs = spec ∧ r.data.size = 2) (hd : ¬ c → rd.Inv ∧ rd.abs = spec) :
    div_BvInv (if c then .fixed (unwrapD rf) else .dynamic rd) ∧
    (if c then Bv.fixed (unwrapD rf) else .dynamic rd).abs = spec ∧
    (if c then Bv.fixed (unwrapD rf) else .dynamic rd).isFixed = decide c := by
  by_cases h : c
  · obtain ⟨r, e, r1, r2, r3⟩ := hf h
    rw [if_pos h, e, decide_eq_true h]
    exact ⟨⟨r1, r3⟩, r2, rfl⟩
  · rw [if_neg h, decide_eq_false h]
    exact ⟨(hd h).1, (hd h).2, rfl⟩

theorem Bv.withCapacity_refines (c : Nat) :
    div_BvInv (Bv.withCapacity c) ∧ (Bv.withCapacity c).abs = BV.zeros 0 ∧ c ≤ (Bv.withCapacity c).capacity := by
  have r := Bv.ite_refines (c := c ≤ 128) (rd := Bvd.withCapacity c)
    (fun _ => Bvf.zeros_ok (w := 64) 2 0 (by decide) (Nat.zero_le _))
    (fun _ => let r := Bvd.withCapacity_refines c; ⟨r.1, r.2.1⟩)
  refine ⟨r.1, r.2.1, ?_⟩
  unfold Bv.withCapacity Bv.cap128
  split
  · assumption
  · exact (Bvd.withCapacity_refines c).2.2.2

theorem Bv.zeros_spec (n : Nat) :
    div_BvInv (Bv.zeros n) ∧ (Bv.zeros n).abs = BV.zeros n ∧ (Bv.zeros n).isFixed = decide (n ≤ 128) :=
  Bv.ite_refines (fun h => Bvf.zeros_ok (w := 64) 2 n (by decide) h) fun _ => let r := Bvd.zeros_refines n; ⟨r.1, r.2.1⟩

theorem Bv.ones_spec (n : Nat) :
    div_BvInv (Bv.ones n) ∧ (Bv.ones n).abs = BV.ones n ∧ (Bv.ones n).isFixed = decide (n ≤ 128) :=
  Bv.ite_refines (fun h => Bvf.ones_ok (w := 64) 2 n (by decide) h) fun _ => let r := Bvd.ones_refines n; ⟨r.1, r.2.1⟩

theorem Bv.zeros_refines (n : Nat) : div_BvInv (Bv.zeros n) ∧ (Bv.zeros n).abs = BV.zeros n :=
  ⟨(Bv.zeros_spec n).1, (Bv.zeros_spec n).2.1⟩

theorem Bv.ones_refines (n : Nat) : div_BvInv (Bv.ones n) ∧ (Bv.ones n).abs = BV.ones n :=
  ⟨(Bv.ones_spec n).1, (Bv.ones_spec n).2.1⟩

theorem Bv.zeros_isFixed (n : Nat) : (Bv.zeros n).isFixed = decide (n ≤ 128) := (Bv.zeros_spec n).2.2

theorem Bv.ones_isFixed (n : Nat) : (Bv.ones n).isFixed = decide (n ≤ 128) := (Bv.ones_spec n).2.2

/-- the shape of `Bv::push` / `Bv::resize`: the edit runs on the vector `t` in which `reserve` has made room for the `n` bits
of the result, so the inline `Bvf<u64,2>` body `F` cannot fail -/
theorem Bv.grown_ok {F : Raw 64 → Res (Raw 64)} {D : Raw 64 → Raw 64} {g : BV → BV} {s : Bv} (n : Nat) (t : Bv)
    (h : div_BvInv t ∧ t.abs = s.abs ∧ n ≤ t.capacity)
    (hF : ∀ b : Raw 64, b.Inv → b.length = s.len → n ≤ b.data.size * 64 →
      ∃ r, F b = .ok r ∧ r.Inv ∧ r.abs = g b.abs ∧ r.data.size = b.data.size)
    (hD : ∀ b : Raw 64, b.Inv → (D b).Inv ∧ (D b).abs = g b.abs) :
    ∃ r, (match t with
        | .fixed b => Bv.liftRes (F b)
        | .dynamic b => .ok (.dynamic (D b))) = .ok r ∧ div_BvInv r ∧ r.abs = g s.abs := by
  obtain ⟨r1, r2, r3⟩ := h
  cases t with
  | fixed c =>
    obtain ⟨r, e, p1, p2, p3⟩ := hF c r1.1 (congrArg BV.len r2) (r1.2 ▸ r3)
    simp only [e]
    exact ⟨_, rfl, ⟨p1, p3.trans r1.2⟩, p2.trans (congrArg g r2)⟩
  | dynamic c => exact ⟨_, rfl, (hD c r1).1, (hD c r1).2.trans (congrArg g r2)⟩

/-- `Bv::push` never fails: `reserve(1)` first, so the inline `Bvf::push` always has room -/
theorem Bv.push_ok (s : Bv) (b : Bool) (h : div_BvInv s) :
    ∃ r, s.push b = .ok r ∧ div_BvInv r ∧ r.abs = s.abs.push b :=
  Bv.grown_ok (F := (Bvf.push · b)) (D := (Bvd.push · b)) (g := (·.push b)) (s.len + 1) (s.reserve 1)
    (Bv.reserve_refines s 1 h) (fun c hc hl hn => Bvf.push_ok c b (by decide) hc (hl ▸ hn)) fun c hc => Bvd.push_refines c b hc

theorem Bv.pop_refines (s : Bv) (h : div_BvInv s) :
    div_BvInv s.pop.1 ∧ (s.pop.1.abs, s.pop.2) = s.abs.pop := by
  cases s with
  | fixed b =>
    obtain ⟨p1, p2, p3⟩ := Raw.pop_refines b (by decide) h.1
    exact ⟨⟨p1, p3.trans h.2⟩, p2⟩
  | dynamic b => exact let p := Raw.pop_refines b (by decide) h; ⟨p.1, p.2.1⟩

/-- `Bv::resize` never fails: it reserves the growth first; when shrinking, `n ≤ len ≤ capacity` already -/
theorem Bv.resize_ok (s : Bv) (n : Nat) (bit : Bool) (h : div_BvInv s) :
    ∃ r, s.resize n bit = .ok r ∧ div_BvInv r ∧ r.abs = s.abs.resize n bit := by
  refine Bv.grown_ok (F := (Bvf.resize · n bit)) (D := (Bvd.resize · n bit)) (g := (·.resize n bit)) n
    (if n > s.len then s.reserve (n - s.len) else s) ?_
    (fun c hc _ hn => Bvf.resize_ok c n bit (by decide) hc (Or.inl hn)) fun c hc => Bvd.resize_refines c n bit hc
  by_cases hn : n > s.len
  · obtain ⟨r1, r2, r3⟩ := Bv.reserve_refines s (n - s.len) h
    rw [Nat.add_sub_cancel' (Nat.le_of_lt hn)] at r3
    rw [if_pos hn]
    exact ⟨r1, r2, r3⟩
  · rw [if_neg hn]
    exact ⟨h, rfl, Nat.le_trans (Nat.le_of_not_lt hn) (Bv.len_le_capacity s h)⟩

theorem Bv.mapRaw_refines (f : Raw 64 → Raw 64) (g : BV → BV) (s : Bv) (h : div_BvInv s)
    (hf : (f s.raw).Inv ∧ (f s.raw).data.size = s.raw.data.size ∧ (f s.raw).abs = g s.raw.abs) :
    div_BvInv (s.mapRaw f) ∧ (s.mapRaw f).abs = g s.abs ∧ (s.mapRaw f).isFixed = s.isFixed := by
  cases s with
  | fixed b => exact ⟨⟨hf.1, hf.2.1.trans h.2⟩, hf.2.2, rfl⟩
  | dynamic b => exact ⟨hf.1, hf.2.2, rfl⟩

theorem Bv.mapRaw_refines' (f : Raw 64 → Raw 64) (g : BV → BV)
    (hf : ∀ b : Raw 64, b.Inv → (f b).Inv ∧ (f b).data.size = b.data.size ∧ (f b).abs = g b.abs)
    (s : Bv) (h : div_BvInv s) :
    div_BvInv (s.mapRaw f) ∧ (s.mapRaw f).abs = g s.abs :=
  let r := Bv.mapRaw_refines f g s h (hf s.raw (div_BvInv_raw h))
  ⟨r.1, r.2.1⟩

theorem Bv.shlAssign_refines (s : Bv) (k : Nat) (h : div_BvInv s) :
    div_BvInv (s.mapRaw (·.shlAssign k)) ∧ (s.mapRaw (·.shlAssign k)).abs = s.abs.shl k :=
  Bv.mapRaw_refines' (·.shlAssign k) (·.shl k)
    (fun b hb => let r := Raw.shlAssign_refines b (by decide) hb k; ⟨r.1, Raw.shlAssign_size b (by decide) hb k, r.2⟩) s h

theorem Bv.shrAssign_refines (s : Bv) (k : Nat) (h : div_BvInv s) :
    div_BvInv (s.mapRaw (·.shrAssign k)) ∧ (s.mapRaw (·.shrAssign k)).abs = s.abs.shr k :=
  Bv.mapRaw_refines' (·.shrAssign k) (·.shr k)
    (fun b hb => let r := Raw.shrAssign_refines b (by decide) hb k; ⟨r.1, Raw.shrAssign_size b (by decide) hb k, r.2⟩) s h

theorem Bv.rotl_refines (s : Bv) (k : Nat) (h : div_BvInv s) (hk : k ≤ s.len) :
    div_BvInv (s.mapRaw (·.rotl k)) ∧ (s.mapRaw (·.rotl k)).abs = s.abs.rotl k :=
  let r := Raw.rotl_refines s.raw (by decide) (div_BvInv_raw h) k hk
  let t := Bv.mapRaw_refines (·.rotl k) (·.rotl k) s h ⟨r.1, Raw.rotl_size s.raw k, r.2⟩
  ⟨t.1, t.2.1⟩

theorem Bv.rotr_refines (s : Bv) (k : Nat) (h : div_BvInv s) (hk : k ≤ s.len) :
    div_BvInv (s.mapRaw (·.rotr k)) ∧ (s.mapRaw (·.rotr k)).abs = s.abs.rotr k :=
  let r := Raw.rotr_refines s.raw (by decide) (div_BvInv_raw h) k hk
  let t := Bv.mapRaw_refines (·.rotr k) (·.rotr k) s h ⟨r.1, Raw.rotr_size s.raw k, r.2⟩
  ⟨t.1, t.2.1⟩

/-- `Bv::copy_range`: a `Fixed` source gives a `Fixed`; a `Dynamic` source gives a fresh `Bvd` that is demoted to
`Fixed` when it has at most 128 bits (that conversion cannot fail). -/
theorem Bv.copyRange_refines (s : Bv) (st en : Nat) (h : div_BvInv s) (hse : st ≤ en) (hen : en ≤ s.len) :
    div_BvInv (s.copyRange st en) ∧ (s.copyRange st en).abs = s.abs.copyRange st en := by
  cases s with
  | fixed b =>
    obtain ⟨r1, r2⟩ := Bvf.copyRange_refines b st en (by decide) h.1 hse hen
    exact ⟨⟨r1, (Bvf.copyRange_size b st en).trans h.2⟩, r2⟩
  | dynamic b =>
    obtain ⟨r1, r2⟩ := Bvd.copyRange_refines b st en hse
    have r := Bv.ite_refines (c := (Bvd.copyRange b st en).length ≤ 128) (fun hl => Bvf.fromBvd_inline _ r1 hl)
      fun _ => ⟨r1, rfl⟩
    exact ⟨r.1, r.2.1.trans r2⟩

/-- the storage mode of the result: inline unless the source is on the heap and the range is longer than 128 bits -/
theorem Bv.copyRange_isFixed (s : Bv) (st en : Nat) (hse : st ≤ en) :
    (s.copyRange st en).isFixed = (s.isFixed || decide (en - st ≤ 128)) := by
  cases s with
  | fixed b => rfl
  | dynamic b =>
    rw [← Bvd.copyRange_length b st en hse]
    by_cases hl : (Bvd.copyRange b st en).length ≤ 128
    · rw [show (Bv.dynamic b).copyRange st en = _ from if_pos hl, decide_eq_true hl]
      rfl
    · rw [show (Bv.dynamic b).copyRange st en = _ from if_neg hl, decide_eq_false hl]
      rfl

/-- the shape of `Bv::append` / `Bv::prepend`: inline while the result fits 128 bits (and then the `Bvf<u64,2>` body `F`
cannot fail), otherwise on the heap (`D`), a `Fixed` being moved there first -/
theorem Bv.splice_ok {F : Raw 64 → Res (Raw 64)} {D : Raw 64 → Raw 64} {g : BV → BV} (n : Nat) (s : Bv) (h : div_BvInv s)
    (hF : ∀ b : Raw 64, b.Inv → b.length + n ≤ b.data.size * 64 →
      ∃ r, F b = .ok r ∧ r.Inv ∧ r.abs = g b.abs ∧ r.data.size = b.data.size)
    (hD : ∀ b : Raw 64, b.Inv → (D b).Inv ∧ (D b).abs = g b.abs) :
    ∃ r, (match s with
        | .fixed b => if b.length + n ≤ Bv.cap128 then Bv.liftRes (F b) else .ok (.dynamic (D (Bvd.fromBvf b)))
        | .dynamic b => .ok (.dynamic (D b))) = .ok r ∧ div_BvInv r ∧ r.abs = g s.abs := by
  cases s with
  | fixed b =>
    simp only
    by_cases hl : b.length + n ≤ Bv.cap128
    · obtain ⟨r, e, p1, p2, p3⟩ := hF b h.1 (by rw [h.2]; exact hl)
      rw [if_pos hl, e]
      exact ⟨_, rfl, ⟨p1, p3.trans h.2⟩, p2⟩
    · obtain ⟨f1, f2, _⟩ := Bvd.fromBvf_refines b compat64 h.1
      rw [if_neg hl]
      exact ⟨_, rfl, (hD _ f1).1, (hD _ f1).2.trans (congrArg g f2)⟩
  | dynamic b => exact ⟨_, rfl, hD b h⟩

/-- `Bv::append` never fails: a `Fixed` whose result would exceed 128 bits is first moved to the heap -/
theorem Bv.append_ok (s : Bv) (x : AnyBv) (h : div_BvInv s) (hx : spl_Src x 8) (hx64 : spl_Src x 64) :
    ∃ r, s.append x = .ok r ∧ div_BvInv r ∧ r.abs = s.abs.append x.abs :=
  Bv.splice_ok (F := (Bvf.append · x)) (D := (Bvd.append · x)) (g := (·.append x.abs)) x.len s h
    (fun b hb hfit => Bvf.append_ok b x (by decide) (by decide) hb hx hfit) fun b hb => Bvd.append_refines b x hb hx64

theorem Bv.prepend_ok (s : Bv) (x : AnyBv) (h : div_BvInv s) (hx : spl_Src x 8) (hx64 : spl_Src x 64) :
    ∃ r, s.prepend x = .ok r ∧ div_BvInv r ∧ r.abs = s.abs.prepend x.abs :=
  Bv.splice_ok (F := (Bvf.prepend · x)) (D := (Bvd.prepend · x)) (g := (·.prepend x.abs)) x.len s h
    (fun b hb hfit => Bvf.prepend_ok b x (by decide) (by decide) hb hx hfit) fun b hb => Bvd.prepend_refines b x hb hx64

/-- `From<Bvd> for Bv`: inline when it fits, otherwise the `Bvd` itself -/
theorem Bv.fromBvd_refines (b : Raw 64) (hb : b.Inv) :
    div_BvInv (Bv.fromBvd b) ∧ (Bv.fromBvd b).abs = b.abs ∧ (Bv.fromBvd b).isFixed = decide (b.length ≤ 128) := by
  obtain ⟨e0, e1⟩ := Bvf.fromBvd_spec (w := 64) 2 b compat64 hb
  unfold Bv.fromBvd
  by_cases hl : 2 * 64 < b.length
  · rw [e0 hl, decide_eq_false (Nat.not_le.mpr hl)]
    exact ⟨hb, rfl, rfl⟩
  · obtain ⟨r, e, r1, r2, r3⟩ := e1 hl
    rw [e, decide_eq_true (Nat.le_of_not_lt hl)]
    exact ⟨⟨r1, r3⟩, r2, rfl⟩

/-- the arm is chosen by the CAPACITY `N·w` of the source type, not by the length -/
theorem Bv.fromBvf_refines {w : Nat} (b : Raw w) (hc : Compat w 64) (hb : b.Inv) :
    div_BvInv (Bv.fromBvf b) ∧ (Bv.fromBvf b).abs = b.abs ∧
      (Bv.fromBvf b).isFixed = decide (b.data.size * w ≤ 128) :=
  Bv.ite_refines (fun h => (Bvf.fromBvf_spec (w := 64) 2 b hc hb).2 (Nat.not_lt.mpr (Nat.le_trans hb.1 h)))
    (fun _ => let r := Bvd.fromBvf_refines b hc hb; ⟨r.1, r.2.1⟩)

theorem Bvf.fromUInt_inline (W x : Nat) (h128 : W ≤ 128) (hx : x < 2 ^ W) :
    ∃ r, Bvf.fromUInt 64 2 W x = .ok r ∧ r.Inv ∧ r.abs = ⟨W, x⟩ ∧ r.data.size = 2 := by
  have hbits : BV.natBits x ≤ W := (BV.natBits_le_iff _ _).mpr hx
  obtain ⟨r, e, r1, r2, r3⟩ := (Bvf.fromUInt_spec (w := 64) 2 W x (by decide) (by decide) hx).2
    (Nat.not_lt.mpr (Nat.le_trans hbits h128))
  exact ⟨r, e, r1, by rw [r2, Nat.min_eq_left h128], r3⟩

/-- `hW` holds for the integer types, `W ∈ {8,16,32,64,128}` -/
theorem Bv.fromUInt_refines (W x : Nat) (hW : W ≤ 128 ∨ 64 ∣ W) (hx : x < 2 ^ W) :
    div_BvInv (Bv.fromUInt W x) ∧ (Bv.fromUInt W x).abs = ⟨W, x⟩ :=
  let r := Bv.ite_refines (c := W ≤ 128) (fun h => Bvf.fromUInt_inline W x h hx)
    (fun h => Bvd.fromUInt_refines W x (.inr (hW.resolve_left h)) hx)
  ⟨r.1, r.2.1⟩

theorem Bv.foldl_mapRaw {α : Type} (g : α → Raw 64 → Raw 64) (l : List α) (t : Bv) :
    l.foldl (fun a p => Bv.mapRaw (g p) a) t = Bv.mapRaw (fun r => l.foldl (fun r p => g p r) r) t := by
  induction l generalizing t with
  | nil => cases t <;> rfl
  | cons p l ih => rw [List.foldl_cons, ih]; cases t <;> rfl

theorem Bv.fromSlice_eq (wJ : Nat) (xs : List Nat) :
    Bv.fromSlice wJ xs =
      if xs.length * wJ ≤ 128 then .fixed (unwrapD (Bvf.fromSlice 64 2 wJ xs))
      else .dynamic (Bvd.fromSlice wJ xs) := by
  unfold Bv.fromSlice
  rw [Bv.foldl_mapRaw (fun (p : Nat × Nat) (r : Raw 64) => r.setInt wJ p.1 (BitVec.ofNat wJ p.2))]
  by_cases hl : xs.length * wJ ≤ 128
  · rw [if_pos hl, show Bv.zeros (xs.length * wJ) = _ from if_pos hl]
    unfold Bvf.fromSlice Bvf.zeros
    rw [if_neg (Nat.not_lt.mpr hl), if_pos hl]
    rfl
  · rw [if_neg hl, show Bv.zeros (xs.length * wJ) = _ from if_neg hl]
    rfl

theorem Bv.fromSlice_refines {wJ : Nat} (xs : List Nat) (hc : Compat 64 wJ) :
    div_BvInv (Bv.fromSlice wJ xs) ∧ (Bv.fromSlice wJ xs).abs = ⟨xs.length * wJ, cnv_sliceVal wJ xs⟩ := by
  rw [Bv.fromSlice_eq]
  have r := Bv.ite_refines (c := xs.length * wJ ≤ 128) (fun h => (Bvf.fromSlice_spec (w := 64) 2 xs hc).2 (Nat.not_lt.mpr h))
    (fun _ => Bvd.fromSlice_refines xs hc)
  exact ⟨r.1, r.2.1⟩

/-- `hk`: when the operand's static type is `Bv` and it holds a `Fixed`, that is a `Bvf<u64,2>` (whose clone the `.bv` arm
models by a width cast that is then the identity) -/
theorem Bv.convert_refines (kind : SrcKind) (x : AnyBv) (hx : div_AnyInv x) (hc : Compat (div_anyW x) 64)
    (hk : kind = .bv → ∀ w1 (b : Raw w1), x = .f w1 b → w1 = 64 ∧ b.data.size = 2) :
    div_BvInv (Bv.convert kind x) ∧ (Bv.convert kind x).abs = x.abs := by
  cases x with
  | f w1 b =>
    have hf := Bv.fromBvf_refines b hc hx.2
    cases kind with
    | bv =>
      obtain ⟨h64, hsz⟩ := hk rfl w1 b rfl
      subst h64
      simp only [Bv.convert]
      rw [show b.data.map (·.setWidth 64) = b.data from Array.map_id'' BitVec.setWidth_eq b.data]
      exact ⟨⟨hx.2, hsz⟩, rfl⟩
    | bvf => exact ⟨hf.1, hf.2.1⟩
    | bvd => exact ⟨hf.1, hf.2.1⟩
  | d b =>
    have hd := Bv.fromBvd_refines b hx
    cases kind with
    | bv => exact ⟨hx, rfl⟩
    | bvf => exact ⟨hd.1, hd.2.1⟩
    | bvd => exact ⟨hd.1, hd.2.1⟩

/-- `uN::try_from(&Bv)`: never panics; an error exactly when the value does not fit in `W` bits -/
theorem Bv.toUInt_spec (s : Bv) (W : Nat) (hc : Compat 64 W) (h : div_BvInv s) :
    s.toUInt W = if s.abs.sig ≤ W then .ok s.abs.val else .err "NotEnoughCapacity" := by
  cases s with
  | fixed b => exact Bvf.toUInt_spec b W hc h.1
  | dynamic b => exact Bvd.toUInt_spec b W h

/-- `Bv::from_bytes` never fails -/
theorem Bv.fromBytes_spec (bytes : List Nat) (big : Bool) (hb : ∀ b ∈ bytes, b < 256) :
    ∃ r, Bv.fromBytes bytes big = .ok r ∧ div_BvInv r ∧ r.abs = BV.fromBytes bytes big ∧
      r.isFixed = decide (bytes.length * 8 ≤ 128) := by
  by_cases hl : bytes.length * 8 ≤ 128
  · obtain ⟨r, e, r1, r2, r3, _⟩ := Bvf.fromBytes_ok (w := 64) 2 bytes big (by decide) (by decide) hb hl
    rw [show Bv.fromBytes bytes big = _ from if_pos hl, e]
    exact ⟨_, rfl, ⟨r1, r3⟩, r2, (decide_eq_true hl).symm⟩
  · obtain ⟨r1, r2⟩ := Bvd.fromBytes_refines bytes big hb
    rw [show Bv.fromBytes bytes big = _ from if_neg hl]
    exact ⟨_, rfl, r1, r2, (decide_eq_false hl).symm⟩

/-- `Bv::read`: the only error is `UnexpectedEof` (never `InvalidInput`), exactly when the input is too short -/
theorem Bv.read_spec (input : List Nat) (length : Nat) (big : Bool) (hb : ∀ b ∈ input, b < 256) :
    (input.length < (length + 7) / 8 → Bv.read input length big = .err "UnexpectedEof") ∧
    ((length + 7) / 8 ≤ input.length →
      ∃ r, Bv.read input length big = .ok (r, input.drop ((length + 7) / 8)) ∧ div_BvInv r ∧
        r.abs = ⟨length, (BV.fromBytes (input.take ((length + 7) / 8)) big).val % 2 ^ length⟩ ∧
        r.isFixed = decide (length ≤ 128)) := by
  by_cases hl : length ≤ 128
  · rw [show Bv.read input length big = _ from if_pos hl]
    refine ⟨fun hs => by rw [Bvf.read_eof (w := 64) 2 input length big hl hs], fun hs => ?_⟩
    obtain ⟨r, e, r1, r2, r3, _⟩ := Bvf.read_ok (w := 64) 2 input length big (by decide) (by decide) hb hl hs
    rw [e]
    exact ⟨_, rfl, ⟨r1, r3⟩, r2, (decide_eq_true hl).symm⟩
  · rw [show Bv.read input length big = _ from if_neg hl]
    refine ⟨fun hs => by rw [Bvd.read_eof input length big hs], fun hs => ?_⟩
    obtain ⟨r, e, r1, r2, _⟩ := Bvd.read_ok input length big hb hs
    rw [e]
    exact ⟨_, rfl, r1, r2, (decide_eq_false hl).symm⟩

/-- `Bv` invariant with fixed bit length: what the division loop keeps of quotient, remainder and divisor -/
def div_BvJ (L : Nat) (t : Bv) : Prop := div_BvInv t ∧ t.len = L

theorem div_BvJ.raw {L : Nat} {t : Bv} (h : div_BvJ L t) : div_J L t.raw.data.size t.raw :=
  ⟨div_BvInv_raw h.1, h.2, rfl⟩

theorem div_BvJ.abs {L : Nat} {t : Bv} (ht : div_BvJ L t) : t.abs = ⟨L, t.abs.val⟩ :=
  congrArg (BV.mk · _) ht.2

theorem div_BvJ.mapRaw {L : Nat} {t : Bv} (ht : div_BvJ L t) {f : Raw 64 → Raw 64} {v : Nat}
    (hf : div_J L t.raw.data.size (f t.raw) ∧ (f t.raw).abs.val = v) :
    div_BvJ L (Bv.mapRaw f t) ∧ (Bv.mapRaw f t).abs.val = v := by
  obtain ⟨r1, r2, _⟩ := Bv.mapRaw_refines f (fun _ => (f t.raw).abs) t ht.1 ⟨hf.1.1, hf.1.2.2, rfl⟩
  exact ⟨⟨r1, (congrArg BV.len r2).trans hf.1.2.1⟩, (congrArg BV.val r2).trans hf.2⟩

theorem Bv.any_abs (d : Bv) : d.any.abs = d.abs := by cases d <;> rfl

theorem Bv.cmpAny_bne_lt (r d : Bv) (hr : div_BvInv r) (hd : div_BvInv d) :
    (Bv.cmpAny r d.any != .lt) = decide (d.abs.val ≤ r.abs.val) := by
  rw [(Bv.eqcmp_any_num r d.any hr hd.any (Bv.any_w d ▸ compat64)).2, compare_bne_lt, Bv.any_abs]

theorem div_BvJ.sub {L : Nat} {r d : Bv} (hr : div_BvJ L r) (hd : div_BvInv d)
    (hle : d.abs.val ≤ r.abs.val) :
    div_BvJ L (Bv.addsubAssign true r d.any) ∧
      (Bv.addsubAssign true r d.any).abs.val = r.abs.val - d.abs.val := by
  have hw : 0 < 64 := by decide
  -- whatever the variants, the payload of `r` goes through a `Raw 64` subtraction that refines `BV.sub`
  suffices h : ∃ t : Raw 64, Bv.addsubAssign true r d.any = Bv.mapRaw (fun _ => t) r ∧
      t.Inv ∧ t.abs = r.raw.abs.sub d.abs ∧ t.data.size = r.raw.data.size by
    obtain ⟨t, e, ht⟩ := h
    rw [e]
    exact hr.mapRaw (hr.raw.sub_of_refines hw ht hle)
  rw [← Bv.any_abs d]
  have src := (ag_src_of_bv d hd).2
  cases r with
  | fixed a => exact ⟨_, rfl, Bvf.addsubAssign_refines true a d.any (by decide) hr.1.1 (Bvf.rhsWord_val hw _ _ src)⟩
  | dynamic a =>
    exact ⟨_, rfl, Bvd.addsubAssign_refines true a d.any hr.1 (fun n _ => Bvd.rhsWords_val _ src n) (Bvd.rhsWords_lt _ src)⟩

/-- `hk`: when the operand's static type is `Bv` and it holds a `Fixed`, that is a `Bvf<u64,2>` -/
theorem Bv.divRem_refines (s : Bv) (kind : SrcKind) (x : AnyBv) (h : div_BvInv s)
    (hx : div_AnyInv x) (hc : Compat (div_anyW x) 64)
    (hk : kind = .bv → ∀ w1 (b : Raw w1), x = .f w1 b → w1 = 64 ∧ b.data.size = 2) :
    (x.abs.val = 0 → Bv.divRem s kind x = .panic) ∧
    (x.abs.val ≠ 0 → ∃ q r, Bv.divRem s kind x = .ok (q, r) ∧ div_BvInv q ∧ div_BvInv r ∧
        q.abs = s.abs.div x.abs ∧ r.abs = s.abs.rem x.abs) := by
  have hw : 0 < 64 := by decide
  have hsr := div_BvInv_raw h
  obtain ⟨z1, z2⟩ := Bv.zeros_refines s.len
  refine divRem_shape div_BvInv Bv.abs x hx s _ _ h z1 (Raw.sigBits_eq s.raw hw hsr) z2 _ fun h0 hsig => ?_
  -- the divisor as a `Bv` of the subject's length: neither step can fail, and since it has no more significant bits than
  -- the subject the `resize` is a zero-extension
  obtain ⟨c1, c2⟩ := Bv.convert_refines kind x hx hc hk
  obtain ⟨d1, e1, i1, a1⟩ := Bv.resize_ok (Bv.convert kind x) s.len false c1
  rw [c2, BV.resize_zext _ s.len (hsr.lt_two_pow_of_natBits_le hw hsig)] at a1
  -- the loop over `Bv` values of length `s.len` (`div_BvJ`), in either storage mode: compare and subtract dispatch on
  -- the two variants (`Bv.cmpAny_bne_lt`, `div_BvJ.sub`), the rest goes through `mapRaw` to the `Raw 64` lemmas of `Div.lean`
  obtain ⟨q, r, e, r1, r2, r3, r4⟩ := divLoop_main (fun r d => Bv.cmpAny r d.any != .lt)
    (fun r d => Bv.addsubAssign true r d.any) (fun q i => Bv.mapRaw (fun t => t.set i true) q)
    (Bv.mapRaw (fun t => t.shrAssign 1)) (fun d k => Bv.mapRaw (fun t => t.shlAssign k) d)
    (div_BvJ s.len) (div_BvJ s.len) (div_BvJ s.len) (fun t => t.abs.val) s.len
    (fun r d hr hd => Bv.cmpAny_bne_lt r d hr.1 hd.1)
    (fun _ _ hr hd hle => hr.sub hd.1 hle)
    (fun q i hq hi hbit => hq.mapRaw (hq.raw.set hw hi hbit))
    (fun d hd => hd.mapRaw (hd.raw.shr hw))
    (fun d k hd hk => hd.mapRaw (hd.raw.shl hw hk))
    (Bv.zeros s.len) s d1 ⟨z1, congrArg BV.len z2⟩ ⟨h, rfl⟩ ⟨i1, congrArg BV.len a1⟩ (congrArg BV.val z2)
    (hsr.wf hw) (congrArg BV.val a1) h0 hsig (Raw.sigBits_eq s.raw hw hsr) (AnyBv.sigBits_eq x hx)
  simp only [e1]
  rw [e]
  exact ⟨q, r, rfl, r1.1, r2.1, r1.abs.trans (congrArg _ r3), r2.abs.trans (congrArg _ r4)⟩

end Bva
