import BvaProofs.L0Bytes
import BvaProofs.Digits
import BvaProofs.Rechunk
/-!
`to_vec` reads byte `i` as an eight-bit window of the value (`toNat_window`).  Every loop of `from_bytes` is `accum`
(`Digits.lean`) with eight-bit digits, whatever its direction (`foldl_zip_accum`, `foldr_zip_accum`); `read` is
`from_bytes` on the first `⌈length / 8⌉` bytes of the input, masked down to `length` bits.
-/
namespace Bva
variable {w : Nat}

theorem toNat_storageByte (ws : Array (BitVec (8 * m))) (hm : 0 < m) (i : Nat) :
    ((wd ws (i / m) >>> ((i % m) * 8)).setWidth 8).toNat = (valAll ws >>> (8 * i)) % 256 := by
  refine toNat_window (Nat.mul_pos (by decide) hm) _ ws (8 * i) (n := 8) (fun j => ?_)
  rw [BitVec.getLsbD_setWidth]
  exact gate_congr Iff.rfl (getLsbD_subword hm ws i j)

theorem Raw.bytesLE_eq (s : Raw w) (h8 : 8 ∣ w) (hw : 0 < w) : s.bytesLE = s.abs.bytesLE := by
  obtain ⟨m, rfl⟩ := h8
  have hm : 0 < m := Nat.pos_of_mul_pos_left hw
  unfold Raw.bytesLE BV.bytesLE
  rw [BV.natBytesLE_eq_map, Nat.mul_div_cancel_left m (by decide : 0 < 8)]
  apply List.map_congr_left
  intro i _
  exact toNat_storageByte s.data hm i

/-- no `s.Inv`: both sides read all of the storage -/
theorem Raw.toVec_eq (s : Raw w) (h8 : 8 ∣ w) (hw : 0 < w) (big : Bool) : s.toVec big = s.abs.toVec big := by
  unfold Raw.toVec BV.toVec
  rw [Raw.bytesLE_eq s h8 hw]

/-- a `for (i, b) in indices.zip(digits)` loop with the accumulate step is `accum` when `J` sends an index with `r`
indices after it to word `r / dpw` -/
theorem foldl_zip_accum (sh dpw : Nat) (J : Nat → Nat) :
    ∀ (bs is : List Nat) (a : Array (BitVec w)), is.length = bs.length →
      (∀ t r (h : r + t + 1 = is.length), J (is[t]'(by omega)) = r / dpw) →
      (is.zip bs).foldl (fun a (p : Nat × Nat) =>
        a.setIfInBounds (J p.1) ((wd a (J p.1) <<< sh) ||| BitVec.ofNat w p.2)) a = accum sh dpw bs a := by
  intro bs
  induction bs with
  | nil => intro is a _ _; rw [List.zip_nil_right]; rfl
  | cons b bs ih =>
    intro is a hl hJ
    cases is with
    | nil => cases hl
    | cons i is =>
      rw [List.zip_cons_cons, List.foldl_cons, accum, ← Nat.succ.inj hl, ← hJ 0 is.length rfl]
      exact ih is _ (Nat.succ.inj hl) (fun t r h => hJ (t + 1) r (congrArg (· + 1) h))

theorem foldr_zip_accum (sh dpw : Nat) (J : Nat → Nat) (bs : List Nat) (a : Array (BitVec w))
    (hJ : ∀ t, t < bs.length → J t = t / dpw) :
    ((List.range bs.length).zip bs).foldr (fun (p : Nat × Nat) a =>
      a.setIfInBounds (J p.1) ((wd a (J p.1) <<< sh) ||| BitVec.ofNat w p.2)) a = accum sh dpw bs.reverse a := by
  rw [List.foldr_eq_foldl_reverse, List.zip, List.reverse_zipWith List.length_range]
  refine foldl_zip_accum sh dpw J bs.reverse _ a
    (by rw [List.length_reverse, List.length_reverse, List.length_range]) (fun t r h => ?_)
  rw [List.length_reverse, List.length_range] at h
  rw [List.getElem_reverse, List.getElem_range, List.length_range, ← h, Nat.add_sub_cancel, Nat.add_sub_cancel]
  exact hJ _ (h ▸ Nat.lt_succ_of_le (Nat.le_add_right r t))

theorem natOfBytesLE_eq_ofDigits (L : List Nat) : BV.natOfBytesLE L = ofDigits (2 ^ 8) L.reverse := by
  induction L with
  | nil => rfl
  | cons b L ih => rw [BV.natOfBytesLE, List.reverse_cons, ofDigits_concat, ← ih, Nat.add_comm, Nat.mul_comm]

theorem length_ite_reverse {α : Type} (big : Bool) (l : List α) : (if big then l else l.reverse).length = l.length := by
  cases big
  · exact List.length_reverse
  · rfl

theorem accum_bytes_refines (m N : Nat) (bytes : List Nat) (big : Bool) (hm : 0 < m) (hb : ∀ b ∈ bytes, b < 256)
    (hc : bytes.length * 8 ≤ N * (8 * m)) :
    (⟨accum 8 m (if big then bytes else bytes.reverse) (Array.replicate N 0#(8 * m)), bytes.length * 8⟩ : Raw (8 * m)).Inv ∧
    (⟨accum 8 m (if big then bytes else bytes.reverse) (Array.replicate N 0#(8 * m)), bytes.length * 8⟩ : Raw (8 * m)).abs
      = BV.fromBytes bytes big := by
  -- the specification reads the bytes least significant first, the loop takes them most significant first
  have hrev : (if big then bytes.reverse else bytes) = (if big then bytes else bytes.reverse).reverse := by
    cases big
    · exact (List.reverse_reverse bytes).symm
    · rfl
  have hlen := length_ite_reverse big bytes
  unfold BV.fromBytes
  rw [hrev, natOfBytesLE_eq_ofDigits, List.reverse_reverse, Nat.mul_comm 8 bytes.length]
  refine accum_refines (sh := 8) (by decide) hm rfl _ (fun b h => hb b ?mem) N ?room _ (by rw [hlen, Nat.mul_comm])
  case mem =>
    cases big
    · exact List.mem_reverse.mp h
    · exact h
  case room =>
    rw [hlen]
    rw [Nat.mul_comm 8 m, ← Nat.mul_assoc] at hc
    exact Nat.le_of_mul_le_mul_right hc (by decide)

theorem Bvd.fromBytes_eq (bytes : List Nat) (big : Bool) :
    Bvd.fromBytes bytes big =
      ⟨accum 8 8 (if big then bytes else bytes.reverse) (Array.replicate ((bytes.length + 7) / 8) 0#(8 * 8)),
       bytes.length * 8⟩ := by
  refine congrArg (Raw.mk · _) (foldl_zip_accum 8 8
    (fun i => (bytes.length + 7) / 8 - 1 - (i + (8 - bytes.length % 8) % 8) / 8) _ _ _
    (List.length_range.trans (length_ite_reverse big bytes).symm) fun t r h => ?_)
  rw [List.getElem_range]
  exact rev_idx (d := 8) (by decide) (h.trans List.length_range)

theorem Bvd.fromBytes_refines (bytes : List Nat) (big : Bool) (hb : ∀ b ∈ bytes, b < 256) :
    (Bvd.fromBytes bytes big).Inv ∧ (Bvd.fromBytes bytes big).abs = BV.fromBytes bytes big := by
  rw [Bvd.fromBytes_eq]
  exact accum_bytes_refines 8 _ bytes big (by decide) hb
    (by rw [← Nat.mul_assoc]; exact Nat.mul_le_mul_right 8 (le_cap_mul (w := 8) bytes.length (by decide)))

theorem Bvd.fromBytes_size (bytes : List Nat) (big : Bool) :
    (Bvd.fromBytes bytes big).data.size = (bytes.length + 7) / 8 ∧
    (Bvd.fromBytes bytes big).length = bytes.length * 8 := by
  rw [Bvd.fromBytes_eq]
  exact ⟨by rw [size_accum, Array.size_replicate], rfl⟩

/-- all four loops of `Bvf::from_bytes` are the accumulate loop (for `u8` words the shift drops everything) -/
theorem Bvf.fromBytes_eq (m N : Nat) (bytes : List Nat) (big : Bool) (hc : bytes.length * 8 ≤ N * (8 * m)) :
    Bvf.fromBytes (8 * m) N bytes big = .ok
      ⟨accum 8 m (if big then bytes else bytes.reverse) (Array.replicate N 0#(8 * m)), bytes.length * 8⟩ := by
  unfold Bvf.fromBytes
  have hbu : 8 * m / 8 = m := Nat.mul_div_cancel_left m (by decide)
  have h1 : ∀ x : BitVec (8 * 1), x <<< 8 = 0#(8 * 1) := fun x => BitVec.shiftLeft_eq_zero (Nat.le_refl _)
  simp only [hbu, if_neg (Nat.not_lt.mpr hc)]
  congr 2
  cases big
  · simp only [Bool.not_false, if_true, Bool.false_eq_true, if_false]
    rw [← foldr_zip_accum 8 m (fun e => e / m) bytes _ (fun _ _ => rfl)]
    by_cases hm : m = 1
    · subst hm
      simp only [if_true, Nat.div_one, h1, BitVec.zero_or]
    · rw [if_neg hm]
  · simp only [Bool.not_true, Bool.false_eq_true, if_false, if_true]
    rw [← foldl_zip_accum 8 m (fun e => (bytes.length - 1 - e) / m) bytes _ _ List.length_range
      (fun t r h => by rw [List.getElem_range]; exact pred_sub_div (h.trans List.length_range) m)]
    by_cases hm : m = 1
    · subst hm
      simp only [if_true, Nat.div_one, h1, BitVec.zero_or]
    · rw [if_neg hm]

theorem Bvf.fromBytes_ok (N : Nat) (bytes : List Nat) (big : Bool) (h8 : 8 ∣ w) (hw : 0 < w)
    (hb : ∀ b ∈ bytes, b < 256) (hc : bytes.length * 8 ≤ N * w) :
    ∃ r, Bvf.fromBytes w N bytes big = .ok r ∧ r.Inv ∧ r.abs = BV.fromBytes bytes big ∧ r.data.size = N ∧
      r.length = bytes.length * 8 := by
  obtain ⟨m, rfl⟩ := h8
  have := accum_bytes_refines m N bytes big (Nat.pos_of_mul_pos_left hw) hb hc
  exact ⟨_, Bvf.fromBytes_eq m N bytes big hc, this.1, this.2, by rw [size_accum, Array.size_replicate], rfl⟩

theorem Bvf.fromBytes_err (N : Nat) (bytes : List Nat) (big : Bool) (hc : N * w < bytes.length * 8) :
    Bvf.fromBytes w N bytes big = .err "NotEnoughCapacity" := by
  unfold Bvf.fromBytes
  simp only [if_pos (show bytes.length * 8 > N * w from hc)]

theorem Bvf.read_invalid (N : Nat) (input : List Nat) (length : Nat) (big : Bool) (h : N * w < length) :
    Bvf.read w N input length big = .err "InvalidInput" := by
  unfold Bvf.read
  rw [if_pos (show length > N * w from h)]

theorem Bvf.read_eof (N : Nat) (input : List Nat) (length : Nat) (big : Bool) (h : length ≤ N * w)
    (hs : input.length < (length + 7) / 8) :
    Bvf.read w N input length big = .err "UnexpectedEof" := by
  unfold Bvf.read
  rw [if_neg (Nat.not_lt.mpr h)]
  simp only [if_pos hs]

theorem Bvf.read_ok (N : Nat) (input : List Nat) (length : Nat) (big : Bool) (h8 : 8 ∣ w) (hw : 0 < w)
    (hb : ∀ b ∈ input, b < 256) (h : length ≤ N * w) (hs : (length + 7) / 8 ≤ input.length) :
    ∃ r, Bvf.read w N input length big = .ok (r, input.drop ((length + 7) / 8)) ∧ r.Inv ∧
      r.abs = ⟨length, (BV.fromBytes (input.take ((length + 7) / 8)) big).val % 2 ^ length⟩ ∧
      r.data.size = N ∧ r.length = length := by
  -- the whole bytes fit as well: `⌈length / 8⌉ ≤ N * m` for `w = 8 * m`
  have hcap : (input.take ((length + 7) / 8)).length * 8 ≤ N * w := by
    obtain ⟨m, rfl⟩ := h8
    rw [List.length_take_of_le hs, Nat.mul_left_comm, Nat.mul_comm 8]
    exact Nat.mul_le_mul_right 8 ((cap_le_iff (w := 8) length (N * m) (by decide)).mpr
      (by rw [Nat.mul_assoc, Nat.mul_comm m]; exact h))
  obtain ⟨bv, hok, _, habs, hsize, _⟩ := Bvf.fromBytes_ok (w := w) N (input.take ((length + 7) / 8)) big h8 hw
    (fun b hb' => hb b (List.mem_of_mem_take hb')) hcap
  have hm := Raw.refines_mod_of_bits hw length (by rw [size_mod2n, hsize]; exact h)
    (fun i => bitAt_mod2n bv.data length i hw)
  refine ⟨⟨mod2n bv.data length, length⟩, ?_, hm.1, congrArg BV.val habs ▸ hm.2, (size_mod2n ..).trans hsize, rfl⟩
  unfold Bvf.read
  rw [if_neg (Nat.not_lt.mpr h)]
  simp only [if_neg (Nat.not_lt.mpr hs), hok]

theorem Bvd.read_eof (input : List Nat) (length : Nat) (big : Bool)
    (hs : input.length < (length + 7) / 8) :
    Bvd.read input length big = .err "UnexpectedEof" := by
  unfold Bvd.read
  simp only [if_pos hs]

theorem Bvd.read_ok (input : List Nat) (length : Nat) (big : Bool)
    (hb : ∀ b ∈ input, b < 256) (hs : (length + 7) / 8 ≤ input.length) :
    ∃ r, Bvd.read input length big = .ok (r, input.drop ((length + 7) / 8)) ∧ r.Inv ∧
      r.abs = ⟨length, (BV.fromBytes (input.take ((length + 7) / 8)) big).val % 2 ^ length⟩ ∧
      r.length = length := by
  obtain ⟨_, habs⟩ := Bvd.fromBytes_refines (input.take ((length + 7) / 8)) big
    (fun b hb' => hb b (List.mem_of_mem_take hb'))
  -- `⌈length / 8⌉` bytes fill `⌈length / 64⌉` words
  have hsize := (Bvd.fromBytes_size (input.take ((length + 7) / 8)) big).1
  rw [List.length_take_of_le hs,
    show ((length + 7) / 8 + 7) / 8 = capFromBitLen 64 length from cap_cap 8 8 length (by decide) (by decide)] at hsize
  unfold Bvd.read
  simp only [if_neg (Nat.not_lt.mpr hs)]
  -- from here on the vector read is a variable: nothing below looks inside `from_bytes`
  generalize Bvd.fromBytes (input.take ((length + 7) / 8)) big = bv at habs hsize ⊢
  have hm := Raw.refines_mod_of_bits (by decide) length
    (by unfold Bvd.maskLast; rw [Array.size_modify, hsize]; exact le_cap_mul _ (by decide))
    (fun i => Bvd.bitAt_maskLast bv.data length i hsize)
  exact ⟨_, rfl, hm.1, congrArg BV.val habs ▸ hm.2, rfl⟩

/-- the error cases of `Bvf::read` are exactly these -/
theorem Bvf.read_spec (N : Nat) (input : List Nat) (length : Nat) (big : Bool) (h8 : 8 ∣ w) (hw : 0 < w)
    (hb : ∀ b ∈ input, b < 256) :
    (Bvf.read w N input length big = .err "InvalidInput" ↔ N * w < length) ∧
    (Bvf.read w N input length big = .err "UnexpectedEof" ↔
      length ≤ N * w ∧ input.length < (length + 7) / 8) ∧
    ((∃ p, Bvf.read w N input length big = .ok p) ↔ length ≤ N * w ∧ (length + 7) / 8 ≤ input.length) := by
  have hne : (Res.err "InvalidInput" : Res (Raw w × List Nat)) ≠ .err "UnexpectedEof" := fun e =>
    absurd (Res.err.inj e) (by decide)
  by_cases h1 : N * w < length
  · rw [Bvf.read_invalid N input length big h1]
    exact ⟨iff_of_true rfl h1, iff_of_false hne fun c => Nat.not_lt.mpr c.1 h1,
      iff_of_false (fun ⟨_, h⟩ => nomatch h) fun c => Nat.not_lt.mpr c.1 h1⟩
  · by_cases h2 : input.length < (length + 7) / 8
    · rw [Bvf.read_eof N input length big (Nat.le_of_not_lt h1) h2]
      exact ⟨iff_of_false hne.symm h1, iff_of_true rfl ⟨Nat.le_of_not_lt h1, h2⟩,
        iff_of_false (fun ⟨_, h⟩ => nomatch h) fun c => Nat.not_le.mpr h2 c.2⟩
    · obtain ⟨r, hr, _⟩ := Bvf.read_ok N input length big h8 hw hb (Nat.le_of_not_lt h1) (Nat.le_of_not_lt h2)
      rw [hr]
      exact ⟨iff_of_false (fun h => nomatch h) h1, iff_of_false (fun h => nomatch h) fun c => h2 c.2,
        iff_of_true ⟨_, rfl⟩ ⟨Nat.le_of_not_lt h1, Nat.le_of_not_lt h2⟩⟩

/-- the error case of `Bvd::read` -/
theorem Bvd.read_spec (input : List Nat) (length : Nat) (big : Bool) :
    (Bvd.read input length big = .err "UnexpectedEof" ↔ input.length < (length + 7) / 8) ∧
    ((∃ p, Bvd.read input length big = .ok p) ↔ (length + 7) / 8 ≤ input.length) := by
  by_cases h2 : input.length < (length + 7) / 8
  · rw [Bvd.read_eof input length big h2]
    exact ⟨iff_of_true rfl h2, iff_of_false (fun ⟨_, h⟩ => nomatch h) (Nat.not_le.mpr h2)⟩
  · unfold Bvd.read
    simp only [if_neg h2]
    exact ⟨iff_of_false (fun h => nomatch h) h2, iff_of_true ⟨_, rfl⟩ (Nat.le_of_not_lt h2)⟩

end Bva
