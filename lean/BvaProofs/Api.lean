import BvaProofs.Refine
import BvaProofs.Bitop
/-!
`v.Refines (Api.op v …) (spec v.abs …)` for the operators, `copy_range` and the capacity operations, for every storage form at
once.  `EditOk` (succeed with the L0 result, or panic because it does not fit a fixed capacity) is defined here; the refinement
theorems of the edits are the `C07_*` theorems themselves, and observers and constructors are proved in their property files.
-/
namespace Bva

theorem Api.addsub_eq_map2 (sub : Bool) (v : Vec) (x : Api.Rhs) :
    Api.addsub sub v x = v.map2 (Bvf.addsubAssign sub · (x.any v)) (Bvd.addsubAssign sub · (x.any v)) := by
  rcases v with _ | _ | _ | _ <;> rfl

theorem Api.mul_eq_map2 (v : Vec) (x : Api.Rhs) : Api.mul v x = v.map2 (Bvf.mul · (x.any v)) (Bvd.mul · (x.any v)) := by
  rcases v with _ | _ | _ | _ <;> rfl

theorem Api.addsub_refines (sub : Bool) (v : Vec) (x : Api.Rhs) (hv : v.Inv) (hx : x.Inv) :
    v.Refines (Api.addsub sub v x) (if sub then v.abs.sub x.spec else v.abs.add x.spec) := by
  obtain ⟨hxa, hxe⟩ := Api.Rhs.any_ok v x hx
  rw [Api.addsub_eq_map2, ← hxe]
  exact Vec.map2_refines hv (fun a => if sub then a.sub _ else a.add _)
    (fun s hw hs _ => Bvf.addsubAssign_refines sub s _ hw.two_le hs (Bvf.rhsWord_val hw.pos _ _ (hxa.srcJ hw)))
    (fun s hs _ =>
      let r := Bvd.addsubAssign_refines sub s _ hs (fun n _ => Bvd.rhsWords_val _ (hxa.srcJ wok64) n)
        (Bvd.rhsWords_lt _ (hxa.srcJ wok64))
      ⟨r.1, r.2.1⟩)

theorem Api.mul_refines (v : Vec) (x : Api.Rhs) (hv : v.Inv) (hx : x.Inv) :
    v.Refines (Api.mul v x) (v.abs.mul x.spec) := by
  obtain ⟨hxa, hxe⟩ := Api.Rhs.any_ok v x hx
  rw [Api.mul_eq_map2, ← hxe]
  generalize x.any v = y at hxa
  refine Vec.map2_refines hv (·.mul y.abs) (fun s hw hs _ => ?_) (fun s hs _ => ?_)
  · have r := Bvf.mul_refines s y hw.two_le hs fun n => by cases y <;> exact (hxa.srcJ hw).valF_mod hw.pos n
    exact ⟨r.1, r.2, Bvf.mul_size s y⟩
  · -- `Bvd::mul` reads a `Bvd` operand's words directly, a `Bvf` operand through `get_int::<u64>`: `Bvd.rhsWords`
    have r := Bvd.mul_refines s y hs fun n => by cases y <;> exact Bvd.rhsWords_val _ (hxa.srcJ wok64) n
    exact ⟨r.1, r.2.1⟩

theorem Api.bitop_eq_map2 (op : BitOp) (v : Vec) (x : Api.Rhs) :
    Api.bitop op v x = v.map2 (Bvf.bitopAssign op · (x.any v)) (Bvd.bitopAssign op · (x.any v)) := by
  rcases v with _ | _ | _ | _ <;> rfl

theorem Api.bitop_refines (op : BitOp) (v : Vec) (x : Api.Rhs) (hv : v.Inv) (hx : x.Inv) :
    v.Refines (Api.bitop op v x) (op.spec v.abs x.spec) := by
  obtain ⟨hxa, hxe⟩ := Api.Rhs.any_ok v x hx
  rw [Api.bitop_eq_map2, ← hxe, BitOp.spec_eq_match]
  exact Vec.map2_refines hv (fun a => match op with | .and => a.and _ | .or => a.or _ | .xor => a.xor _)
    (fun s hw hs _ => Bvf.bitopAssign_refines op s _ hw.pos hs (Bvf.rhsWord_bits hw.pos _ _ (hxa.srcJ hw)))
    (fun s hs _ => let r := Bvd.bitopAssign_refines op s _ hs (Bvd.rhsWords_bits _ (hxa.srcJ wok64)); ⟨r.1, r.2.1⟩)

theorem Api.not_eq_map2 (v : Vec) (byRef : Bool) :
    Api.not v byRef = v.map2 Bvf.not (fun s => if byRef then Bvd.notRef s else Bvd.not s) := by
  rcases v with _ | _ | _ | _ <;> rfl

theorem Api.not_refines (v : Vec) (hv : v.Inv) (byRef : Bool) :
    v.Refines (Api.not v byRef) v.abs.not := by
  rw [Api.not_eq_map2]
  refine Vec.map2_refines hv (·.not) (fun s hw hs _ => Bvf.not_refines s hw.pos hs) (fun s hs _ => ?_)
  cases byRef
  · exact let r := Bvd.not_refines s hs; ⟨r.1, r.2.1⟩
  · exact let r := Bvd.notRef_refines s hs; ⟨r.1, r.2.1⟩

theorem Api.divRemK_refines (v : Vec) (hv : v.Inv) (kind : SrcKind) (y : AnyBv) (hy : y.Inv) :
    (y.abs.val = 0 → Api.divRemK v kind y = .panic) ∧
    (y.abs.val ≠ 0 → ∃ q r, Api.divRemK v kind y = .ok (q, r) ∧ q.Inv ∧ r.Inv ∧
        q.abs = v.abs.div y.abs ∧ r.abs = v.abs.rem y.abs ∧ q.ty = v.ty ∧ r.ty = v.ty) := by
  rcases v with ⟨w, s⟩ | s | s | s
  · have r := Bvf.divRem_refines s kind y hv.1.two_le hv.2 hy.div (hy.compat hv.1)
    refine ⟨fun h0 => congrArg (Res.map _) (r.1 h0), fun hn => ?_⟩
    obtain ⟨q, rr, e, hq, hr, aq, ar, sq, sr⟩ := r.2 hn
    exact ⟨.f w q, .f w rr, congrArg (Res.map _) e, ⟨hv.1, hq⟩, ⟨hv.1, hr⟩, aq, ar,
      congrArg (Ty.f w) sq, congrArg (Ty.f w) sr⟩
  · have r := Bvd.divRem_refines_of_compat s y hv hy.div (hy.compat wok64)
    refine ⟨fun h0 => congrArg (Res.map _) (r.1 h0), fun hn => ?_⟩
    obtain ⟨q, rr, e, t⟩ := r.2 hn
    exact ⟨.d q, .d rr, congrArg (Res.map _) e, t.1, t.2.1, t.2.2.1, t.2.2.2, rfl, rfl⟩
  · have r := Bvf.divRem_refines s kind y (by decide) hv.1 hy.div (hy.compat wok64)
    refine ⟨fun h0 => congrArg (Res.map _) (r.1 h0), fun hn => ?_⟩
    obtain ⟨q, rr, e, hq, hr, aq, ar, sq, sr⟩ := r.2 hn
    exact ⟨.a (.fixed q), .a (.fixed rr), congrArg (Res.map _) e, ⟨hq, sq.trans hv.2⟩, ⟨hr, sr.trans hv.2⟩,
      aq, ar, rfl, rfl⟩
  · have r := Bvd.divRem_refines_of_compat s y hv hy.div (hy.compat wok64)
    refine ⟨fun h0 => congrArg (Res.map _) (r.1 h0), fun hn => ?_⟩
    obtain ⟨q, rr, e, t⟩ := r.2 hn
    exact ⟨.a (.dynamic q), .a (.dynamic rr), congrArg (Res.map _) e, t.1, t.2.1, t.2.2.1, t.2.2.2, rfl, rfl⟩

theorem Api.narrowShift_spec (a : BV) (k : Nat) (hl : a.len < 2 ^ 64) :
    a.shl (Api.narrowShift k) = a.shl k ∧ a.shr (Api.narrowShift k) = a.shr k := by
  unfold Api.narrowShift
  by_cases h : k ≤ 2 ^ 64 - 1
  · rw [Nat.min_eq_left h]; exact ⟨rfl, rfl⟩
  · -- both amounts are at least the length, and then everything is shifted out
    have h1 : a.len ≤ 2 ^ 64 - 1 := Nat.le_sub_one_of_lt hl
    have h2 : a.len ≤ k := Nat.le_trans h1 (Nat.le_of_not_le h)
    rw [Nat.min_eq_right (Nat.le_of_not_le h)]
    exact ⟨(if_pos h1).trans (if_pos h2).symm, (if_pos h1).trans (if_pos h2).symm⟩

/-- the shape of `<<` / `>>`: the in-place body `A` everywhere, except that `&Bvd << k` has a body `R` of its own -/
theorem Api.shift_refines {A : {w : Nat} → Raw w → Raw w} {R : Raw 64 → Raw 64} {g : BV → BV} (v : Vec) (hv : v.Inv)
    (byRef : Bool)
    (hA : ∀ {w : Nat} (s : Raw w), WOk w → s.Inv → (A s).Inv ∧ (A s).abs = g s.abs ∧ (A s).data.size = s.data.size)
    (hR : ∀ s : Raw 64, s.Inv → (R s).Inv ∧ (R s).abs = g s.abs) :
    v.Refines (match (generalizing := false) v with
      | .d s => .d (if byRef then R s else A s)
      | _ => v.mapRaw A) (g v.abs) := by
  rcases v with _ | s | _
  · exact Vec.mapRaw_refines hv g fun s hw hs _ => hA s hw hs
  · cases byRef
    · exact let r := hA s wok64 hv; ⟨r.1, r.2.1, rfl⟩
    · exact let r := hR s hv; ⟨r.1, r.2, rfl⟩
  · exact Vec.mapRaw_refines hv g fun s hw hs _ => hA s hw hs

theorem Api.shl_refines (v : Vec) (hv : v.Inv) (k : Nat) (byRef : Bool) (hl : v.len < 2 ^ 64) :
    v.Refines (Api.shl v k byRef) (v.abs.shl k) := by
  rw [← (Api.narrowShift_spec v.abs k (Vec.abs_len v ▸ hl)).1]
  exact Api.shift_refines (A := (·.shlAssign _)) (R := (Bvd.shlRef · _)) (g := (·.shl _)) v hv byRef
    (fun s hw hs => let r := Raw.shlAssign_refines s hw.pos hs _; ⟨r.1, r.2, Raw.shlAssign_size s hw.pos hs _⟩)
    fun s hs => Bvd.shlRef_refines s hs _

theorem Api.shr_refines (v : Vec) (hv : v.Inv) (k : Nat) (byRef : Bool) (hl : v.len < 2 ^ 64) :
    v.Refines (Api.shr v k byRef) (v.abs.shr k) := by
  rw [← (Api.narrowShift_spec v.abs k (Vec.abs_len v ▸ hl)).2]
  exact Api.shift_refines (A := (·.shrAssign _)) (R := (Bvd.shrRef · _)) (g := (·.shr _)) v hv byRef
    (fun s hw hs => let r := Raw.shrAssign_refines s hw.pos hs _; ⟨r.1, r.2, Raw.shrAssign_size s hw.pos hs _⟩)
    fun s hs => Bvd.shrRef_refines s hs _

theorem Api.shlIn_eq (v : Vec) (b : Bool) :
    Api.shlIn v b = (v.mapRaw fun r => (r.shlIn b).1, v.withRaw fun r => (r.shlIn b).2) := by
  rcases v with _ | _ | _ | _ <;> rfl
theorem Api.shrIn_eq (v : Vec) (b : Bool) :
    Api.shrIn v b = (v.mapRaw fun r => (r.shrIn b).1, v.withRaw fun r => (r.shrIn b).2) := by
  rcases v with _ | _ | _ | _ <;> rfl

theorem Api.shlIn_refines (v : Vec) (hv : v.Inv) (b : Bool) :
    v.Refines (Api.shlIn v b).1 (v.abs.shlIn b).1 ∧ (Api.shlIn v b).2 = (v.abs.shlIn b).2 := by
  rw [Api.shlIn_eq]
  exact Vec.mapRaw_refines₂ hv (·.shlIn b) fun s hw hs =>
    let r := Raw.shlIn_refines s hw.pos hs b; ⟨r.1, r.2, (Raw.shlIn_bits s hw.pos hs b).2.1⟩

theorem Api.shrIn_refines (v : Vec) (hv : v.Inv) (b : Bool) :
    v.Refines (Api.shrIn v b).1 (v.abs.shrIn b).1 ∧ (Api.shrIn v b).2 = (v.abs.shrIn b).2 := by
  rw [Api.shrIn_eq]
  exact Vec.mapRaw_refines₂ hv (·.shrIn b) fun s hw hs =>
    let r := Raw.shrIn_refines s hw.pos hs b; ⟨r.1, r.2, (Raw.shrIn_bits s hw.pos hs b).2.1⟩

theorem Api.rotl_refines (v : Vec) (hv : v.Inv) (k : Nat) (hk : k ≤ v.len) :
    v.Refines (Api.rotl v k) (v.abs.rotl k) :=
  Vec.mapRaw_refines hv (·.rotl k) fun s hw hs e =>
    let r := Raw.rotl_refines s hw.pos hs k (e ▸ hk); ⟨r.1, r.2, Raw.rotl_size s k⟩

theorem Api.rotr_refines (v : Vec) (hv : v.Inv) (k : Nat) (hk : k ≤ v.len) :
    v.Refines (Api.rotr v k) (v.abs.rotr k) :=
  Vec.mapRaw_refines hv (·.rotr k) fun s hw hs e =>
    let r := Raw.rotr_refines s hw.pos hs k (e ▸ hk); ⟨r.1, r.2, Raw.rotr_size s k⟩

theorem Api.pop_eq (v : Vec) : Api.pop v = (v.mapRaw fun r => r.pop.1, v.withRaw fun r => r.pop.2) := by
  rcases v with _ | _ | _ | _ <;> rfl

theorem Api.copyRange_refines (v : Vec) (hv : v.Inv) (st en : Nat) (hse : st ≤ en) (hen : en ≤ v.len) :
    v.Refines (Api.copyRange v st en) (v.abs.copyRange st en) := by
  rcases v with ⟨w, s⟩ | s | c
  · have r := Bvf.copyRange_refines s st en hv.1.pos hv.2 hse hen
    exact ⟨⟨hv.1, r.1⟩, r.2, congrArg (Ty.f w) (Bvf.copyRange_size s st en)⟩
  · exact let r := Bvd.copyRange_refines s st en hse; ⟨r.1, r.2, rfl⟩
  · exact let r := Bv.copyRange_refines c st en hv.bvinv hse hen; ⟨Vec.inv_a.mpr r.1, r.2, rfl⟩

/-- on a `Bvf`, which has no such method, `Api.reserve` is the identity -/
theorem Api.reserve_refines (v : Vec) (hv : v.Inv) (k : Nat) : v.Refines (Api.reserve v k) v.abs := by
  rcases v with _ | s | c
  · exact ⟨hv, rfl, rfl⟩
  · exact let r := Bvd.reserve_refines s k hv; ⟨r.1, r.2.1, rfl⟩
  · exact let r := Bv.reserve_refines c k hv.bvinv; ⟨Vec.inv_a.mpr r.1, r.2.1, rfl⟩

theorem Api.shrinkToFit_refines (v : Vec) (hv : v.Inv) : v.Refines (Api.shrinkToFit v) v.abs := by
  rcases v with _ | s | c
  · exact ⟨hv, rfl, rfl⟩
  · exact let r := Bvd.shrinkToFit_refines s hv; ⟨r.1, r.2.1, rfl⟩
  · exact let r := Bv.shrinkToFit_refines c hv.bvinv; ⟨Vec.inv_a.mpr r.1, r.2.1, rfl⟩

/-- what "succeeds with the L0 result, or panics because it does not fit" means -/
def EditOk (v : Vec) (res : Res Vec) (spec : BV) : Prop :=
  (v.fits spec.len → ∃ r, res = .ok r ∧ r.Inv ∧ r.abs = spec ∧ r.ty = v.ty) ∧
  (¬ v.fits spec.len → res = .panic)

theorem EditOk.f {w : Nat} {s : Raw w} {res : Res (Raw w)} {spec : BV} (hw : WOk w)
    (hok : spec.len ≤ s.data.size * w → ∃ r, res = .ok r ∧ r.Inv ∧ r.abs = spec ∧ r.data.size = s.data.size)
    (hpanic : s.data.size * w < spec.len → res = .panic) : EditOk (.f w s) (liftF w res) spec :=
  ⟨fun hfit => liftF_ok hw (hok hfit), fun hfit => congrArg (liftF w) (hpanic (Nat.lt_of_not_le hfit))⟩

theorem EditOk.d {s r : Raw 64} {spec : BV} (h : r.Inv ∧ r.abs = spec) : EditOk (.d s) (.ok (.d r)) spec :=
  ⟨fun _ => Vec.ok_d h, fun hf => absurd trivial hf⟩

theorem EditOk.a {c : Bv} {res : Res Bv} {spec : BV} (h : ∃ r, res = .ok r ∧ div_BvInv r ∧ r.abs = spec) :
    EditOk (.a c) (liftA res) spec :=
  ⟨fun _ => liftA_ok h, fun hf => absurd trivial hf⟩

theorem EditOk.ok {v : Vec} (hv : v.Inv) : EditOk v (.ok v) v.abs :=
  ⟨fun _ => ⟨v, rfl, hv, rfl, rfl⟩, fun hf => absurd (Vec.abs_len v ▸ hv.fits_len) hf⟩

theorem EditOk.of_ty {v v' : Vec} {res : Res Vec} {spec : BV} (ht : v'.ty = v.ty) (h : EditOk v' res spec) :
    EditOk v res spec := by
  unfold EditOk at h ⊢
  rwa [Vec.fits_of_ty ht, ht] at h

/-- `hl`: the first edit can only fail if the whole does -/
theorem EditOk.bind {v : Vec} {res : Res Vec} {k : Vec → Res Vec} {s1 s2 : BV} (h1 : EditOk v res s1)
    (hl : s1.len ≤ s2.len) (h2 : ∀ r, r.Inv → r.abs = s1 → r.ty = v.ty → EditOk r (k r) s2) :
    EditOk v (res.bind k) s2 := by
  by_cases hf : v.fits s1.len
  · obtain ⟨r, e, hr, ha, ht⟩ := h1.1 hf
    rw [e]
    exact (h2 r hr ha ht).of_ty ht
  · rw [h1.2 hf]
    exact ⟨fun h => absurd (Vec.fits_mono hl h) hf, fun _ => rfl⟩

theorem EditOk.of_fits {v : Vec} {res : Res Vec} {spec : BV} (h : EditOk v res spec) {n : Nat} (hn : spec.len = n)
    (hfit : v.fits n) : ∃ r, res = .ok r ∧ r.Inv ∧ r.abs = spec ∧ r.ty = v.ty ∧ r.len = n := by
  obtain ⟨r, e, hr, ha, ht⟩ := h.1 (hn ▸ hfit)
  exact ⟨r, e, hr, ha, ht, hn ▸ Vec.len_of_abs ha⟩

theorem EditOk.panic_iff {v : Vec} {res : Res Vec} {spec : BV} (h : EditOk v res spec) :
    res = .panic ↔ ¬ v.fits spec.len := by
  refine ⟨fun hp hf => ?_, h.2⟩
  obtain ⟨_, e, _⟩ := h.1 hf
  cases hp.symm.trans e

end Bva
