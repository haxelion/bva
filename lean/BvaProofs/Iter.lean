import BvaModel.Iter
/-! Proofs for the iterator model: the `(start, stop)` state refines the remaining sub-list.

The lemmas on `seg` are stated with the same `if a < b` the model uses, so that for each kind of call both sides of
`step_refines` become the same text once the slice side is rewritten. -/
namespace Bva

/-- the bits still to be yielded by state `(a, b)` -/
def seg (get : Nat → Bool) (a b : Nat) : List Bool := (List.range' a (b - a)).map get

theorem seg_length (get : Nat → Bool) (a b : Nat) : (seg get a b).length = b - a := by
  rw [seg, List.length_map, List.length_range']

theorem seg_empty (get : Nat → Bool) (a b : Nat) (h : b ≤ a) : seg get a b = [] := by
  rw [seg, Nat.sub_eq_zero_of_le h]; rfl

theorem seg_head? (get : Nat → Bool) (a b : Nat) : (seg get a b).head? = if a < b then some (get a) else none := by
  rw [seg, List.head?_map, List.head?_range']
  by_cases h : a < b
  · rw [if_neg (Nat.sub_ne_zero_of_lt h), if_pos h]; rfl
  · rw [if_pos (Nat.sub_eq_zero_of_le (Nat.not_lt.mp h)), if_neg h]; rfl

theorem seg_getLast? (get : Nat → Bool) (a b : Nat) :
    (seg get a b).getLast? = if a < b then some (get (b - 1)) else none := by
  rw [seg, List.getLast?_map, List.getLast?_range']
  by_cases h : a < b
  · rw [if_neg (Nat.sub_ne_zero_of_lt h), if_pos h, Nat.add_sub_cancel' (Nat.le_of_lt h)]; rfl
  · rw [if_pos (Nat.sub_eq_zero_of_le (Nat.not_lt.mp h)), if_neg h]; rfl

theorem seg_drop (get : Nat → Bool) (a b n : Nat) : (seg get a b).drop n = seg get (a + n) b := by
  rw [seg, seg, ← List.map_drop, List.drop_range', Nat.sub_sub, Nat.mul_one]

theorem seg_dropBack (get : Nat → Bool) (a b n : Nat) :
    (seg get a b).take ((seg get a b).length - n) = seg get a (b - n) := by
  rw [seg_length, seg, seg, ← List.map_take, List.take_range'_of_length_ge (Nat.sub_le _ _), Nat.sub_right_comm]

open IterSt
theorem step_refines (get : Nat → Bool) (s : IterSt) (h : s.start ≤ s.stop) (c : IterCall) :
    (step get s c).1.start ≤ (step get s c).1.stop ∧
    (step get s c).1.stop ≤ s.stop ∧ s.start ≤ (step get s c).1.start ∧
    sliceStep (seg get s.start s.stop) c
      = (seg get (step get s c).1.start (step get s c).1.stop, (step get s c).2) := by
  -- per call: the slice side by the `seg` lemmas, the model's `step` unfolded, then the two branches of its `if`;
  -- when nothing is left both sides are empty segments, whatever their end points
  cases c with
  | next =>
    rw [sliceStep, seg_drop, seg_head?, step]
    by_cases hlt : s.start < s.stop
    · rw [if_pos hlt, if_pos hlt]
      exact ⟨hlt, Nat.le_refl _, Nat.le_succ _, rfl⟩
    · have hba := Nat.not_lt.mp hlt
      rw [if_neg hlt, if_neg hlt, seg_empty get (s.start + 1) s.stop (Nat.le_succ_of_le hba), seg_empty get s.start s.stop hba]
      exact ⟨h, Nat.le_refl _, Nat.le_refl _, rfl⟩
  | nextBack =>
    rw [sliceStep, List.dropLast_eq_take, seg_dropBack, seg_getLast?, step]
    by_cases hlt : s.start < s.stop
    · rw [if_pos hlt, if_pos hlt]
      exact ⟨Nat.le_sub_one_of_lt hlt, Nat.sub_le _ _, Nat.le_refl _, rfl⟩
    · have hba := Nat.not_lt.mp hlt
      rw [if_neg hlt, if_neg hlt, seg_empty get s.start (s.stop - 1) (Nat.le_trans (Nat.sub_le _ _) hba),
        seg_empty get s.start s.stop hba]
      exact ⟨h, Nat.le_refl _, Nat.le_refl _, rfl⟩
  | nth n =>
    rw [sliceStep, seg_drop, seg_drop, seg_head?, step]
    by_cases hlt : n < s.stop - s.start
    · have h1 : s.start + n < s.stop := Nat.add_lt_of_lt_sub' hlt
      rw [if_pos hlt, if_pos h1]
      exact ⟨h1, Nat.le_refl _, Nat.le_add_right _ _, rfl⟩
    · have h1 : s.stop ≤ s.start + n := Nat.sub_le_iff_le_add'.mp (Nat.not_lt.mp hlt)
      rw [if_neg hlt, if_neg (Nat.not_lt.mpr h1), seg_empty get (s.start + (n + 1)) s.stop (Nat.le_succ_of_le h1),
        seg_empty get s.stop s.stop (Nat.le_refl _)]
      exact ⟨Nat.le_refl _, Nat.le_refl _, h, rfl⟩
  | nthBack n =>
    rw [sliceStep, seg_dropBack, seg_dropBack, seg_getLast?, step]
    by_cases hlt : n < s.stop - s.start
    · have h1 : s.start < s.stop - n := Nat.lt_sub_of_add_lt (Nat.add_lt_of_lt_sub' hlt)
      rw [if_pos hlt, if_pos h1]
      exact ⟨Nat.le_sub_one_of_lt h1, Nat.sub_le _ _, Nat.le_refl _, rfl⟩
    · have h1 : s.stop - n ≤ s.start := Nat.sub_le_iff_le_add.mpr (Nat.sub_le_iff_le_add'.mp (Nat.not_lt.mp hlt))
      rw [if_neg hlt, if_neg (Nat.not_lt.mpr h1),
        seg_empty get s.start (s.stop - (n + 1)) (Nat.le_trans (Nat.sub_le_sub_left (Nat.le_succ n) _) h1),
        seg_empty get s.start s.start (Nat.le_refl _)]
      exact ⟨Nat.le_refl _, h, Nat.le_refl _, rfl⟩
  | sizeHint => exact ⟨h, Nat.le_refl _, Nat.le_refl _, by rw [sliceStep, seg_length]; rfl⟩
  | count => exact ⟨h, Nat.le_refl _, Nat.le_refl _, by rw [sliceStep, seg_length]; rfl⟩
  | last => exact ⟨h, Nat.le_refl _, Nat.le_refl _, by rw [sliceStep, seg_getLast?]; rfl⟩

theorem stepRev_refines (get : Nat → Bool) (s : IterSt) (h : s.start ≤ s.stop) (c : IterCall) :
    (stepRev get s c).1.start ≤ (stepRev get s c).1.stop ∧
    (stepRev get s c).1.stop ≤ s.stop ∧ s.start ≤ (stepRev get s c).1.start ∧
    sliceStepRev (seg get s.start s.stop) c
      = (seg get (stepRev get s c).1.start (stepRev get s c).1.stop, (stepRev get s c).2) := by
  cases c with
  | next => exact step_refines get s h .nextBack
  | nextBack => exact step_refines get s h .next
  | nth n => exact step_refines get s h (.nthBack n)
  | nthBack n => exact step_refines get s h (.nth n)
  | sizeHint => exact step_refines get s h .sizeHint
  | count => exact ⟨h, Nat.le_refl _, Nat.le_refl _, by rw [sliceStepRev, seg_length]; rfl⟩
  | last => exact ⟨h, Nat.le_refl _, Nat.le_refl _, by rw [sliceStepRev, seg_head?]; rfl⟩

theorem run_refines (get : Nat → Bool) (rev : Bool) (calls : List IterCall) :
    ∀ s : IterSt, s.start ≤ s.stop →
      run get rev s calls = sliceRun rev (seg get s.start s.stop) calls := by
  induction calls with
  | nil => exact fun _ _ => rfl
  | cons c cs ih =>
    intro s h
    cases rev with
    | false =>
      obtain ⟨h1, _, _, h4⟩ := step_refines get s h c
      simp only [run, sliceRun, Bool.false_eq_true, if_false, h4]
      rw [ih _ h1]
    | true =>
      obtain ⟨h1, _, _, h4⟩ := stepRev_refines get s h c
      simp only [run, sliceRun, if_true, h4]
      rw [ih _ h1]

end Bva
