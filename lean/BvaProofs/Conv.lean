import BvaProofs.Operand
import BvaProofs.ChunkCopy
import BvaProofs.Count
import BvaProofs.Cmp
/-!
A conversion between implementations copies `get_int` chunks of the source into the target's words (`Raw.refines_of_chunks`);
`to_uint` is one `get_int` (`Bvf`) or reads the words as digits (`Bvd.toUInt_loop`); an integer is written as the words of
the number (`Raw.refines_of_natWords`); a slice is written element by element with `set_int` (`fillInts_copied`).
-/
namespace Bva
variable {w : Nat}

theorem Raw.refines_of_chunks {w1 : Nat} (o : Raw w1) (hc : Compat w1 w) (ho : o.Inv) {a : Array (BitVec w)} {n : Nat}
    (hsz : a.size = n) (hcap : o.length ≤ n * w) (ha : ∀ j, j < n → wd a j = (o.getInt w j).getD 0#w) :
    (⟨a, o.length⟩ : Raw w).Inv ∧ (⟨a, o.length⟩ : Raw w).abs = o.abs ∧ a.size = n := by
  subst hsz
  have hw : 0 < w := hc.2.1
  have hb : ∀ i, bitAt a i = bitAt o.data i := bitAt_of_wd a _ hw fun k j hj => by
    by_cases hk : k < a.size
    · rw [ha _ hk, Raw.getInt_getLsbD o hc ho, decide_eq_true hj, Bool.true_and]
    · -- past the target's last word the source has no bits either: `o.length ≤ a.size * w ≤ k * w`
      have hlen : o.length ≤ k * w + j :=
        Nat.le_trans hcap (Nat.le_trans (Nat.mul_le_mul_right w (Nat.le_of_not_lt hk)) (Nat.le_add_right ..))
      rw [wd_oob _ _ (Nat.le_of_not_lt hk), BitVec.getLsbD_zero, ho.2 _ hlen]
  exact ⟨⟨hcap, fun i hi => by rw [hb]; exact ho.2 i hi⟩, Raw.abs_eq_of_bits _ o hw hc.1 rfl hb, rfl⟩

theorem wd_copyChunks {w1 : Nat} (o : Raw w1) (hw : 0 < w) (n N : Nat) (hn : min N (o.intLen w) ≤ n) (j : Nat)
    (hj : j < N) :
    wd (forRange 0 n (fun i a => a.setIfInBounds i ((o.getInt w i).getD 0#w)) (Array.replicate N 0#w)) j
      = (o.getInt w j).getD 0#w := by
  rw [wd_forRange_set, Array.size_replicate, wd_replicate, if_pos hj]
  by_cases h : j < n ∧ j < N
  · rw [if_pos h]
  · -- a word the loop did not reach: the source has no chunk `j` either,
    -- as otherwise `j < min N (o.intLen w) ≤ n ≤ j`
    have hnj : n ≤ j := Nat.le_of_not_lt fun c => h ⟨c, hj⟩
    have hL : o.intLen w ≤ j := Nat.le_of_not_lt fun hL =>
      Nat.lt_irrefl j (Nat.lt_of_lt_of_le (Nat.lt_min.mpr ⟨hj, hL⟩) (Nat.le_trans hn hnj))
    rw [if_neg h, Raw.getInt_beyond o hw j hL]

/-- the copy loop of `try_from(&Bvf)` (`n = min N int_len`) and of `try_from(&Bv)` (`n = int_len`) -/
theorem Bvf.copyChunks_refines {w1 : Nat} (n N : Nat) (o : Raw w1) (hc : Compat w1 w) (ho : o.Inv)
    (hn : min N (o.intLen w) ≤ n) (h : ¬ N * w < o.length) :
    let r : Raw w := ⟨forRange 0 n (fun i a => a.setIfInBounds i ((o.getInt w i).getD 0#w))
        (Array.replicate N 0#w), o.length⟩
    r.Inv ∧ r.abs = o.abs ∧ r.data.size = N :=
  Raw.refines_of_chunks o hc ho (by rw [size_forRange_set, Array.size_replicate]) (Nat.le_of_not_lt h)
    (fun j hj => wd_copyChunks o hc.2.1 n N hn j hj)

theorem Bvf.fromBvf_spec {w1 : Nat} (N : Nat) (o : Raw w1) (hc : Compat w1 w) (ho : o.Inv) :
    (N * w < o.length → Bvf.fromBvf w N o = .err "NotEnoughCapacity") ∧
    (¬ N * w < o.length →
      ∃ r, Bvf.fromBvf w N o = .ok r ∧ r.Inv ∧ r.abs = o.abs ∧ r.data.size = N) := by
  unfold Bvf.fromBvf
  refine ⟨fun h => by rw [if_pos h], fun h => ?_⟩
  rw [if_neg h]
  exact ⟨_, rfl, Bvf.copyChunks_refines _ N o hc ho (Nat.le_refl _) h⟩

theorem Bvf.fromBvd_spec (N : Nat) (o : Raw 64) (hc : Compat 64 w) (ho : o.Inv) :
    (N * w < o.length → Bvf.fromBvd w N o = .err "NotEnoughCapacity") ∧
    (¬ N * w < o.length →
      ∃ r, Bvf.fromBvd w N o = .ok r ∧ r.Inv ∧ r.abs = o.abs ∧ r.data.size = N) := by
  unfold Bvf.fromBvd
  refine ⟨fun h => by rw [if_pos h], fun h => ?_⟩
  rw [if_neg h]
  exact ⟨_, rfl, Raw.refines_of_chunks o hc ho Array.size_ofFn (Nat.le_of_not_lt h)
    (fun j hj => by rw [wd_ofFn, dif_pos hj])⟩

theorem Bvf.fromBv_spec (N : Nat) (x : AnyBv) (hx : cnv_SrcOk w x) :
    (N * w < x.len → Bvf.fromBv w N x = .err "NotEnoughCapacity") ∧
    (¬ N * w < x.len →
      ∃ r, Bvf.fromBv w N x = .ok r ∧ r.Inv ∧ r.abs = x.abs ∧ r.data.size = N) := by
  unfold Bvf.fromBv
  refine ⟨fun h => by rw [if_pos h], fun h => ?_⟩
  rw [if_neg h]
  refine ⟨_, rfl, ?_⟩
  cases x with
  | f w1 b => exact Bvf.copyChunks_refines _ N b hx.1 hx.2 (Nat.min_le_right _ _) h
  | d b => exact Bvf.copyChunks_refines _ N b hx.1 hx.2 (Nat.min_le_right _ _) h

/-- `Bvf<I,N>::try_from(&B)` for every static source kind -/
theorem Bvf.convert_spec (N : Nat) (kind : SrcKind) (x : AnyBv) (hx : cnv_SrcOk w x) :
    (N * w < x.len → Bvf.convert w N kind x = .err "NotEnoughCapacity") ∧
    (¬ N * w < x.len →
      ∃ r, Bvf.convert w N kind x = .ok r ∧ r.Inv ∧ r.abs = x.abs ∧ r.data.size = N) := by
  cases kind with
  | bv => exact Bvf.fromBv_spec N x hx
  | bvf | bvd =>
    cases x with
    | f w1 b => exact Bvf.fromBvf_spec N b hx.1 hx.2
    | d b => exact Bvf.fromBvd_spec N b hx.1 hx.2

theorem Bvd.fromBvf_refines {w1 : Nat} (o : Raw w1) (hc : Compat w1 64) (ho : o.Inv) :
    (Bvd.fromBvf o).Inv ∧ (Bvd.fromBvf o).abs = o.abs ∧
      (Bvd.fromBvf o).data.size = Bvd.capW o.length :=
  Raw.refines_of_chunks (n := o.intLen 64) o hc ho Array.size_ofFn (le_cap_mul o.length (by decide))
    (fun j hj => by rw [wd_ofFn, dif_pos hj])

theorem Bvd.convert_refines (x : AnyBv) (hx : cnv_SrcOk 64 x) :
    (Bvd.convert x).Inv ∧ (Bvd.convert x).abs = x.abs := by
  cases x with
  | f w1 b =>
    have r := Bvd.fromBvf_refines b hx.1 hx.2
    exact ⟨r.1, r.2.1⟩
  | d b => exact ⟨hx.2, rfl⟩

/-- never panics (also for the empty vector, repair D7); an error exactly when the value does not fit -/
theorem Bvf.toUInt_spec (s : Raw w) (W : Nat) (hc : Compat w W) (h : s.Inv) :
    Bvf.toUInt s W = if s.abs.sig ≤ W then .ok s.abs.val else .err "NotEnoughCapacity" := by
  unfold Bvf.toUInt
  rw [Raw.sigBits_eq s hc.1 h]
  by_cases hs : s.abs.sig ≤ W
  · have hlt : s.abs.val < 2 ^ W := (BV.natBits_le_iff _ _).mp hs
    rw [if_neg (Nat.not_lt.mpr hs), if_pos hs, Raw.getInt_toNat s hc h, Nat.zero_mul, Nat.shiftRight_zero,
      Nat.mod_eq_of_lt hlt]
  · rw [if_pos (Nat.lt_of_not_le hs), if_neg hs]

/-- the loop of `TryFrom<&Bvd> for uN`, most significant word first: the words are the base-`2^64` digits -/
theorem Bvd.toUInt_loop (ws : Array (BitVec 64)) (W n : Nat) :
    forRangeRev 0 n (fun i (r : BitVec W) => (if 64 < W then r <<< 64 else 0#W) ||| (wd ws i).setWidth W) 0#W
      = BitVec.ofNat W (valUpTo ws n) := by
  -- for `W ≤ 64` the shift drops everything, so the two arms agree
  have hf : (fun i (r : BitVec W) => (if 64 < W then r <<< 64 else 0#W) ||| (wd ws i).setWidth W)
      = fun i (r : BitVec W) => (r <<< 64) ||| BitVec.ofNat W (wd ws i).toNat := by
    funext i r
    rw [← BitVec.ofNat_toNat]
    by_cases h : 64 < W
    · rw [if_pos h]
    · rw [if_neg h, BitVec.shiftLeft_eq_zero (Nat.le_of_not_lt h)]
  have hd : ∀ d ∈ (List.range' 0 n).reverse.map (fun i => (wd ws i).toNat), d < 2 ^ 64 := by
    intro d hd
    obtain ⟨i, _, rfl⟩ := List.mem_map.mp hd
    exact (wd ws i).isLt
  have key := foldl_shl_or (w := W) 64 _ hd 0
  rw [List.foldl_map] at key
  unfold forRangeRev
  rw [hf, Nat.sub_zero, List.foldr_eq_foldl_reverse, ← ofDigits_words]
  exact key

theorem Bvd.toUInt_spec (s : Raw 64) (W : Nat) (h : s.Inv) :
    Bvd.toUInt s W = if s.abs.sig ≤ W then .ok s.abs.val else .err "NotEnoughCapacity" := by
  have hw : 0 < 64 := by decide
  unfold Bvd.toUInt
  rw [Raw.sigBits_eq s hw h]
  by_cases hs : s.abs.sig ≤ W
  · rw [if_neg (Nat.not_lt.mpr hs), if_pos hs, Bvd.toUInt_loop, BitVec.toNat_ofNat, ← valF_wd,
      valF_wd_of_inv s hw h (Bvd.capW s.length) (le_cap_mul s.length hw),
      Nat.mod_eq_of_lt ((BV.natBits_le_iff _ _).mp hs)]
  · rw [if_pos (Nat.lt_of_not_le hs), if_neg hs]

theorem Raw.refines_of_natWords (hw : 0 < w) {a : Array (BitVec w)} {n : Nat} (hsz : a.size = n) (len x : Nat)
    (hx : x < 2 ^ len) (hcap : len ≤ n * w) (h : ∀ j, j < n → wd a j = BitVec.ofNat w (x >>> (j * w))) :
    (⟨a, len⟩ : Raw w).Inv ∧ (⟨a, len⟩ : Raw w).abs = ⟨len, x⟩ := by
  subst hsz
  refine Raw.refines_of_bits ⟨a, len⟩ ⟨len, x⟩ hw hx rfl hcap (bitAt_of_wd_ofNat hw (fun j => ?_))
  by_cases hj : j < a.size
  · exact h j hj
  · rw [wd_oob _ _ (Nat.le_of_not_lt hj),
      ofNat_shiftRight_of_lt hx (Nat.le_trans hcap (Nat.mul_le_mul_right w (Nat.le_of_not_lt hj)))]

/-- `1 ≤ N`: for `W ≤ w` the body writes `data[0]` unconditionally -/
theorem Bvf.fromUInt_spec (N W x : Nat) (hw : 0 < w) (hN : 1 ≤ N) (hx : x < 2 ^ W) :
    (N * w < BV.natBits x → Bvf.fromUInt w N W x = .err "NotEnoughCapacity") ∧
    (¬ N * w < BV.natBits x →
      ∃ r, Bvf.fromUInt w N W x = .ok r ∧ r.Inv ∧ r.abs = ⟨min W (N * w), x⟩ ∧ r.data.size = N) := by
  have hbits : BV.natBits x ≤ W := (BV.natBits_le_iff _ _).mpr hx
  unfold Bvf.fromUInt
  by_cases hWw : W ≤ w
  · -- the number fits into word 0; the words above it are zero, as they are in the number
    have hWN : W ≤ N * w := Nat.le_trans hWw (Nat.le_mul_of_pos_left w hN)
    rw [if_pos hWw, Nat.min_eq_left hWN]
    refine ⟨fun h => absurd h (Nat.not_lt.mpr (Nat.le_trans hbits hWN)), fun _ => ⟨_, rfl, ?_⟩⟩
    have hsz : ((Array.replicate N 0#w).setIfInBounds 0 (BitVec.ofNat w x)).size = N :=
      Array.size_setIfInBounds.trans Array.size_replicate
    have key := Raw.refines_of_natWords hw hsz W x hx hWN (fun j _ => by
      rw [wd_setIfInBounds, Array.size_replicate]
      cases j with
      | zero => rw [if_pos ⟨rfl, hN⟩, Nat.zero_mul]; rfl
      | succ j =>
        rw [if_neg (fun h => Nat.succ_ne_zero j h.1.symm), wd_replicate, ite_self, ofNat_shiftRight_of_lt hx
          (Nat.le_trans hWw (Nat.le_mul_of_pos_left w (Nat.succ_pos j)))])
    exact ⟨key.1, key.2, hsz⟩
  · rw [if_neg hWw]
    refine ⟨fun h => by rw [if_pos h], fun h => ?_⟩
    rw [if_neg h]
    refine ⟨_, rfl, ?_⟩
    have hsz : (Array.ofFn (n := N) fun i => BitVec.ofNat w (x >>> (i.val * w))).size = N := Array.size_ofFn
    have hxN : x < 2 ^ (N * w) := (BV.natBits_le_iff _ _).mp (Nat.le_of_not_lt h)
    have key := Raw.refines_of_natWords hw hsz (min W (N * w)) x (by rw [Nat.min_def]; split <;> assumption)
      (Nat.min_le_right _ _) (fun j hj => by rw [wd_ofFn, dif_pos hj])
    exact ⟨key.1, key.2, hsz⟩

/-- `hW` holds for the integer types, `W ∈ {8,16,32,64,128}` -/
theorem Bvd.fromUInt_refines (W x : Nat) (hW : W ≤ 64 ∨ 64 ∣ W) (hx : x < 2 ^ W) :
    (Bvd.fromUInt W x).Inv ∧ (Bvd.fromUInt W x).abs = ⟨W, x⟩ := by
  have hw : 0 < 64 := by decide
  unfold Bvd.fromUInt
  by_cases hWw : W ≤ 64
  · rw [if_pos hWw]
    refine Raw.refines_of_natWords hw (n := 1) rfl W x hx (Nat.one_mul 64 ▸ hWw) (fun j hj => ?_)
    cases Nat.lt_one_iff.mp hj
    rfl
  · rw [if_neg hWw]
    have hsz : (Array.ofFn (n := W / 64) fun i => BitVec.ofNat 64 (x >>> (64 * i.val))).size = W / 64 :=
      Array.size_ofFn
    exact Raw.refines_of_natWords hw hsz W x hx (Nat.le_of_eq (Nat.div_mul_cancel (hW.resolve_left hWw)).symm)
      (fun j hj => by rw [wd_ofFn, dif_pos hj, Nat.mul_comm])

/-- the slice as one bit sequence: element `t / wJ`, bit `t % wJ` -/
def cnv_sliceBit (wJ : Nat) (xs : List Nat) (t : Nat) : Bool := (BitVec.ofNat wJ (xs.getD (t / wJ) 0)).getLsbD (t % wJ)

/-- filling in the elements `ys` from chunk `k` on is a chunk copy in progress (`spl_Copied`, as in `append`): each `set_int`
is one `spl_Copied.step_put` -/
theorem fillInts_copied {wJ : Nat} {σ : Type} {bits : σ → Nat → Bool} {put : σ → Nat → BitVec wJ → σ}
    {get : σ → Nat → BitVec wJ} {P : σ → Prop} {L : Nat} (sys : spl_Sys bits put get P L) (a1 : σ) (C : Nat → Bool) :
    ∀ (ys : List Nat) (k : Nat) (a : σ), spl_Copied bits P wJ L a1 C 0 k a →
      (∀ t j, t < ys.length → j < wJ → bits a1 ((k + t) * wJ + j) = false) →
      (∀ t j, t < ys.length → j < wJ → (BitVec.ofNat wJ (ys.getD t 0)).getLsbD j = C ((k + t) * wJ + j)) →
      spl_Copied bits P wJ L a1 C 0 (k + ys.length)
        (((List.range' k ys.length).zip ys).foldl (fun r (p : Nat × Nat) => put r p.1 (BitVec.ofNat wJ p.2)) a) := by
  intro ys
  induction ys with
  | nil => exact fun k a h _ _ => h
  | cons y ys ih =>
    intro k a h hz hv
    rw [List.length_cons, List.range'_succ, List.zip_cons_cons, List.foldl_cons, ← Nat.add_assoc, Nat.add_right_comm]
    refine ih (k + 1) _ (h.step_put sys _ (fun j hj => ?_) fun j hj => hv 0 j (Nat.succ_pos _) hj) (fun t j ht hj => ?_)
      fun t j ht hj => ?_
    · rw [Nat.zero_add]; exact hz 0 j (Nat.succ_pos _) hj
    · rw [Nat.add_right_comm, Nat.add_assoc]; exact hz (t + 1) j (Nat.succ_lt_succ ht) hj
    · rw [Nat.add_right_comm, Nat.add_assoc]; exact hv (t + 1) j (Nat.succ_lt_succ ht) hj

/-- value of a slice of `wJ`-bit integers read little-endian: `Σ_j (x_j mod 2^wJ)·2^(wJ·j)` -/
def cnv_sliceVal (wJ : Nat) (xs : List Nat) : Nat :=
  valF (fun i => BitVec.ofNat wJ (xs.getD i 0)) xs.length

theorem fillInts_zero {wJ : Nat} (hc : Compat w wJ) (xs : List Nat) (z : Raw w)
    (hl : z.length = xs.length * wJ) (hcap : z.length ≤ z.data.size * w)
    (hz : ∀ i, bitAt z.data i = false) :
    let r := ((List.range xs.length).zip xs).foldl (fun (r : Raw w) (p : Nat × Nat) => r.setInt wJ p.1 (BitVec.ofNat wJ p.2)) z
    r.Inv ∧ r.abs = ⟨xs.length * wJ, cnv_sliceVal wJ xs⟩ ∧ r.data.size = z.data.size := by
  intro r
  have hJ := hc.2.1
  have dm : ∀ k j, j < wJ → (k * wJ + j) / wJ = k ∧ (k * wJ + j) % wJ = j := fun k j hj =>
    Nat.mul_comm wJ k ▸ div_mod_unique hJ k j hj
  obtain ⟨⟨hinv, hlen, hsize⟩, hbits⟩ := fillInts_copied (spl_sysF hc z.length z.data.size) z (cnv_sliceBit wJ xs) xs 0 z
    (spl_Copied.zero z _ 0 ⟨⟨hcap, fun i _ => hz i⟩, rfl, rfl⟩) (fun _ _ _ _ => hz _)
    (fun t j _ hj => by rw [cnv_sliceBit, Nat.zero_add, (dm t j hj).1, (dm t j hj).2])
  rw [← List.range_eq_range'] at hinv hlen hsize hbits
  have hbit : ∀ t, bitAt r.data t = (decide (t < xs.length * wJ) && cnv_sliceBit wJ xs t) := fun t => by
    have := hbits t
    simp only [hz, Bool.false_or, Nat.zero_mul, Nat.zero_add, Nat.sub_zero, Nat.zero_le, true_and, hl, and_self] at this
    exact this
  have hX : r.abs.val < 2 ^ (wJ * xs.length) := by
    have := hinv.wf hc.1
    rwa [BV.WF, Raw.abs_len, hlen, hl, Nat.mul_comm] at this
  refine ⟨hinv, ?_, hsize⟩
  have hv := valF_eq_of_bits hJ (fun i => BitVec.ofNat wJ (xs.getD i 0)) xs.length _ hX (fun k j hk hj => by
    have hlt : k * wJ + j < xs.length * wJ :=
      Nat.lt_of_lt_of_le (Nat.add_lt_add_left hj _) (Nat.succ_mul k wJ ▸ Nat.mul_le_mul_right wJ hk)
    rw [← BV.bit, Raw.abs_bit _ _ hc.1, hbit, decide_eq_true hlt, Bool.true_and, cnv_sliceBit, (dm k j hj).1, (dm k j hj).2])
  exact BV.ext_bits (hlen.trans hl) fun i => by rw [BV.bit, BV.bit, ← hv]; rfl

theorem Bvf.fromSlice_spec {wJ : Nat} (N : Nat) (xs : List Nat) (hc : Compat w wJ) :
    (N * w < xs.length * wJ → Bvf.fromSlice w N wJ xs = .err "NotEnoughCapacity") ∧
    (¬ N * w < xs.length * wJ →
      ∃ r, Bvf.fromSlice w N wJ xs = .ok r ∧ r.Inv ∧
        r.abs = ⟨xs.length * wJ, cnv_sliceVal wJ xs⟩ ∧ r.data.size = N) := by
  unfold Bvf.fromSlice
  refine ⟨fun h => if_neg (Nat.not_le.mpr h), fun h => ?_⟩
  rw [if_pos (Nat.le_of_not_lt h)]
  have key := fillInts_zero hc xs ⟨Array.replicate N 0#w, xs.length * wJ⟩ rfl
    ((Array.size_replicate ..).symm ▸ Nat.le_of_not_lt h) (fun i => bitAt_replicate_zero _ i)
  exact ⟨_, rfl, key.1, key.2.1, key.2.2.trans (Array.size_replicate ..)⟩

theorem Bvd.fromSlice_refines {wJ : Nat} (xs : List Nat) (hc : Compat 64 wJ) :
    (Bvd.fromSlice wJ xs).Inv ∧ (Bvd.fromSlice wJ xs).abs = ⟨xs.length * wJ, cnv_sliceVal wJ xs⟩ :=
  have key := fillInts_zero hc xs (Bvd.zeros (xs.length * wJ)) rfl
    ((Array.size_replicate ..).symm ▸ le_cap_mul _ (by decide)) (fun i => bitAt_replicate_zero _ i)
  ⟨key.1, key.2.1⟩

/-- `Σ_j x_j·2^(wJ·j)` by recursion on the list (head = least significant element) -/
def cnv_sliceSum (wJ : Nat) : List Nat → Nat
  | [] => 0
  | x :: xs => x + 2 ^ wJ * cnv_sliceSum wJ xs

theorem valF_succ_left {wJ : Nat} (g : Nat → BitVec wJ) (n : Nat) :
    valF g (n + 1) = (g 0).toNat + 2 ^ wJ * valF (fun i => g (i + 1)) n := by
  rw [Nat.add_comm n 1, valF_add g 1 n, valF, valF, Nat.mul_zero, Nat.pow_zero, Nat.one_mul, Nat.zero_add, Nat.mul_one]
  simp only [Nat.add_comm 1]

theorem cnv_sliceVal_eq_sum (wJ : Nat) (xs : List Nat) (hx : ∀ x ∈ xs, x < 2 ^ wJ) :
    cnv_sliceVal wJ xs = cnv_sliceSum wJ xs := by
  induction xs with
  | nil => rfl
  | cons x xs ih =>
    unfold cnv_sliceVal
    rw [List.length_cons, valF_succ_left]
    simp only [List.getD_cons_zero, List.getD_cons_succ, BitVec.toNat_ofNat]
    rw [Nat.mod_eq_of_lt (hx x (List.mem_cons_self ..))]
    have := ih (fun y hy => hx y (List.mem_cons_of_mem _ hy))
    unfold cnv_sliceVal at this
    rw [this]
    rfl

end Bva
