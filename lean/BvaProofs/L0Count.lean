import BvaProofs.L0
/-!
# Counts of the specification: `natBits`, `natTz`, and `sig`, leading/trailing zeros and ones of a `BV`
`IsSig` / `IsTz` say what a significant-bit count and a trailing-zero count are, bit by bit; both are unique.
-/
namespace Bva

/-- `m` is the number of significant positions of the bit function `f` -/
def IsSig (f : Nat → Bool) (m : Nat) : Prop :=
  (∀ j, m ≤ j → f j = false) ∧ (m = 0 ∨ f (m - 1) = true)

/-- `t` is the number of trailing zero positions of `f`, capped at `n` -/
def IsTz (f : Nat → Bool) (n t : Nat) : Prop :=
  t ≤ n ∧ (∀ j, j < t → f j = false) ∧ (t < n → f t = true)

theorem IsSig.le {f : Nat → Bool} {m m' : Nat} (h : IsSig f m) (h' : IsSig f m') : m ≤ m' :=
  Nat.le_of_not_lt fun hlt => by
    rcases h.2 with h0 | ht
    · exact Nat.not_lt_zero m' (h0 ▸ hlt)
    · rw [h'.1 (m - 1) (Nat.le_sub_one_of_lt hlt)] at ht; cases ht

theorem IsSig.unique {f : Nat → Bool} {m m' : Nat} (h : IsSig f m) (h' : IsSig f m') : m = m' :=
  Nat.le_antisymm (h.le h') (h'.le h)

theorem IsTz.le {f : Nat → Bool} {n t t' : Nat} (h : IsTz f n t) (h' : IsTz f n t') : t ≤ t' :=
  Nat.le_of_not_lt fun hlt => by
    have := h'.2.2 (Nat.lt_of_lt_of_le hlt h.1)
    rw [h.2.1 t' hlt] at this; cases this

theorem IsTz.unique {f : Nat → Bool} {n t t' : Nat} (h : IsTz f n t) (h' : IsTz f n t') : t = t' :=
  Nat.le_antisymm (h.le h') (h'.le h)

theorem IsTz.congr {f g : Nat → Bool} {n t : Nat} (hfg : ∀ j, j < n → f j = g j) (h : IsTz f n t) : IsTz g n t :=
  ⟨h.1, fun j hj => hfg j (Nat.lt_of_lt_of_le hj h.1) ▸ h.2.1 j hj, fun ht => hfg t ht ▸ h.2.2 ht⟩

/-- a smaller cap cuts the count off -/
theorem IsTz.min {f : Nat → Bool} {m n t : Nat} (h : IsTz f m t) (hn : n ≤ m) : IsTz f n (min t n) := by
  rcases Nat.le_total t n with ht | ht
  · rw [Nat.min_eq_left ht]
    exact ⟨ht, h.2.1, fun hlt => h.2.2 (Nat.lt_of_lt_of_le hlt hn)⟩
  · rw [Nat.min_eq_right ht]
    exact ⟨Nat.le_refl n, fun j hj => h.2.1 j (Nat.lt_of_lt_of_le hj ht), fun hlt => absurd hlt (Nat.lt_irrefl n)⟩

theorem BV.natBits_zero : BV.natBits 0 = 0 := rfl

theorem BV.natBits_eq_zero_iff (v : Nat) : BV.natBits v = 0 ↔ v = 0 := by
  unfold BV.natBits
  by_cases h : v = 0
  · rw [if_pos h]; exact ⟨fun _ => h, fun _ => rfl⟩
  · rw [if_neg h]; exact ⟨fun h' => absurd h' (Nat.succ_ne_zero _), fun h' => absurd h' h⟩

theorem BV.natBits_le_iff (v n : Nat) : BV.natBits v ≤ n ↔ v < 2 ^ n := by
  unfold BV.natBits
  by_cases h : v = 0
  · rw [if_pos h, h]; exact ⟨fun _ => Nat.two_pow_pos n, fun _ => Nat.zero_le n⟩
  · rw [if_neg h, ← Nat.log2_lt h]; exact Iff.rfl

theorem BV.lt_two_pow_natBits (a : Nat) : a < 2 ^ BV.natBits a :=
  (BV.natBits_le_iff a _).mp (Nat.le_refl _)

theorem BV.natBits_isSig (v : Nat) : IsSig v.testBit (BV.natBits v) :=
  ⟨fun _ hj => testBit_of_lt (BV.lt_two_pow_natBits v) hj, by
    by_cases h : v = 0
    · exact Or.inl (h ▸ BV.natBits_zero)
    · rw [BV.natBits, if_neg h]; exact Or.inr (Nat.testBit_log2 h)⟩

theorem BV.two_pow_le_of_lt_natBits (b n : Nat) (h : n < BV.natBits b) : 2 ^ n ≤ b :=
  Nat.le_of_not_lt fun hlt => Nat.not_le_of_lt h ((BV.natBits_le_iff b n).mpr hlt)

theorem BV.lt_of_natBits_lt (a b : Nat) (h : BV.natBits a < BV.natBits b) : a < b :=
  Nat.lt_of_lt_of_le (BV.lt_two_pow_natBits a) (BV.two_pow_le_of_lt_natBits b _ h)

theorem BV.natBits_pos (b : Nat) (hb : b ≠ 0) : 0 < BV.natBits b :=
  Nat.pos_of_ne_zero (mt (BV.natBits_eq_zero_iff b).mp hb)

theorem BV.natBits_div_two_pow (v k : Nat) : BV.natBits (v / 2 ^ k) = BV.natBits v - k :=
  eq_of_forall_ge_iff fun n => by
    rw [BV.natBits_le_iff, Nat.div_lt_iff_lt_mul (Nat.two_pow_pos k), ← Nat.pow_add, ← BV.natBits_le_iff,
      Nat.sub_le_iff_le_add]

/-- `x ≠ 0` stacked on `k` low bits `A`: dividing by `2 ^ k` gives `x` back and takes `k` significant bits away -/
theorem BV.natBits_stack {A k x : Nat} (hA : A < 2 ^ k) (hx : x ≠ 0) :
    BV.natBits (A + 2 ^ k * x) = k + BV.natBits x := by
  have h := BV.natBits_div_two_pow (A + 2 ^ k * x) k
  rw [Nat.add_mul_div_left _ _ (Nat.two_pow_pos k), Nat.div_eq_of_lt hA, Nat.zero_add] at h
  rw [h, Nat.add_sub_cancel' (Nat.le_of_lt (Nat.lt_of_sub_pos (h ▸ BV.natBits_pos x hx)))]

theorem BV.natBits_mul_two_pow (v k : Nat) (hv : v ≠ 0) : BV.natBits (v * 2 ^ k) = BV.natBits v + k := by
  rw [Nat.mul_comm, ← Nat.zero_add (2 ^ k * v), BV.natBits_stack (Nat.two_pow_pos k) hv, Nat.add_comm]

theorem BV.natTz_isTz (n v : Nat) : IsTz v.testBit n (BV.natTz n v) := by
  induction n generalizing v with
  | zero => exact ⟨Nat.le_refl _, fun j hj => absurd hj (Nat.not_lt_zero j), fun h => absurd h (Nat.lt_irrefl 0)⟩
  | succ n ih =>
    rw [BV.natTz]
    split
    · rename_i h
      exact ⟨Nat.zero_le _, fun j hj => absurd hj (Nat.not_lt_zero j), fun _ => by rw [Nat.testBit_zero, h]; rfl⟩
    · rename_i h
      obtain ⟨h0, h1, h2⟩ := ih (v / 2)
      rw [Nat.add_comm 1]
      refine ⟨Nat.succ_le_succ h0, fun j hj => ?_, fun ht => ?_⟩
      · cases j with
        | zero => rw [Nat.testBit_zero]; exact decide_eq_false h
        | succ j => rw [Nat.testBit_succ]; exact h1 j (Nat.lt_of_succ_lt_succ hj)
      · rw [Nat.testBit_succ]; exact h2 (Nat.lt_of_succ_lt_succ ht)

theorem BV.natTz_zero (n : Nat) : BV.natTz n 0 = n :=
  (BV.natTz_isTz n 0).unique ⟨Nat.le_refl n, fun j _ => Nat.zero_testBit j, fun h => absurd h (Nat.lt_irrefl n)⟩

/-- trailing zeros of a digit `x < 2^k` stacked under `Y`: those of `x`, and if `x = 0` those of `Y` on top -/
theorem BV.natTz_stack (n Y : Nat) : ∀ (k x : Nat), x < 2 ^ k →
    BV.natTz (k + n) (x + 2 ^ k * Y) = if x = 0 then k + BV.natTz n Y else BV.natTz k x := by
  intro k
  induction k with
  | zero =>
    intro x hx
    rw [Nat.lt_one_iff.mp hx, if_pos rfl, Nat.zero_add, Nat.zero_add, Nat.zero_add, Nat.pow_zero, Nat.one_mul]
  | succ k ih =>
    intro x hx
    have h2 : x / 2 < 2 ^ k := Nat.div_lt_of_lt_mul (by rw [← Nat.pow_succ']; exact hx)
    -- one step of `natTz` on the left: `x + 2 ^ (k + 1) * Y` has the parity of `x`, its half is `x / 2 + 2 ^ k * Y`
    rw [Nat.succ_add, BV.natTz, BV.natTz, Nat.pow_succ', Nat.mul_assoc, Nat.add_mul_mod_self_left,
      Nat.add_mul_div_left _ _ (by decide : 0 < 2), ih _ h2]
    by_cases h1 : x % 2 = 1
    · rw [if_pos h1, if_pos h1, if_neg (fun h => by rw [h] at h1; cases h1)]
    · rw [if_neg h1, if_neg h1]
      by_cases h0 : x = 0
      · rw [h0, if_pos rfl, if_pos rfl, Nat.add_comm 1, Nat.add_right_comm]
      · have hx2 : x / 2 ≠ 0 := fun h => h0 (by
          rw [← Nat.div_add_mod x 2, h, (Nat.mod_two_eq_zero_or_one x).resolve_right h1])
        rw [if_neg h0, if_neg hx2]

/-- only the low `m` bits matter, and more fuel than bits does not -/
theorem BV.natTz_mod (n m v : Nat) (h : n ≤ m) : BV.natTz n v = min (BV.natTz m (v % 2 ^ m)) n :=
  (BV.natTz_isTz n v).unique (((BV.natTz_isTz m (v % 2 ^ m)).congr fun j hj => by
    rw [Nat.testBit_mod_two_pow, decide_eq_true hj, Bool.true_and]).min h)

theorem BV.natTz_mod_self (n v : Nat) : BV.natTz n (v % 2 ^ n) = BV.natTz n v := by
  rw [BV.natTz_mod n n v (Nat.le_refl n), Nat.min_eq_left (BV.natTz_isTz n _).1]

theorem BV.sig_le_len (a : BV) (h : a.WF) : a.sig ≤ a.len := (BV.natBits_le_iff _ _).mpr h

theorem BV.leadingZeros_add_sig (a : BV) (h : a.WF) : a.leadingZeros + a.sig = a.len :=
  Nat.sub_add_cancel (BV.sig_le_len a h)

theorem BV.leadingZeros_le_len (a : BV) : a.leadingZeros ≤ a.len := Nat.sub_le _ _

theorem BV.trailingZeros_le_len (a : BV) : a.trailingZeros ≤ a.len := (BV.natTz_isTz a.len a.val).1

theorem BV.leadingOnes_le_len (a : BV) : a.leadingOnes ≤ a.len := BV.leadingZeros_le_len a.not

theorem BV.trailingOnes_le_len (a : BV) : a.trailingOnes ≤ a.len := BV.trailingZeros_le_len a.not

theorem BV.isZero_iff_sig (a : BV) : a.isZero = true ↔ a.sig = 0 := by
  unfold BV.isZero BV.sig
  rw [BV.natBits_eq_zero_iff, beq_iff_eq]

theorem BV.zeros_leadingZeros (n : Nat) : (BV.zeros n).leadingZeros = n := Nat.sub_zero n

theorem BV.zeros_trailingZeros (n : Nat) : (BV.zeros n).trailingZeros = n := BV.natTz_zero n

theorem BV.sig_top (a : BV) : a.sig = 0 ∨ a.bit (a.sig - 1) = true := (BV.natBits_isSig a.val).2

theorem BV.bit_of_sig_le (a : BV) (i : Nat) (h : a.sig ≤ i) : a.bit i = false :=
  (BV.natBits_isSig a.val).1 i h

theorem BV.sig_unique (a : BV) (m : Nat) (h1 : ∀ i, m ≤ i → a.bit i = false)
    (h2 : m = 0 ∨ a.bit (m - 1) = true) : a.sig = m :=
  (BV.natBits_isSig a.val).unique ⟨h1, h2⟩

theorem BV.bit_of_lt_trailingZeros (a : BV) (i : Nat) (h : i < a.trailingZeros) : a.bit i = false :=
  (BV.natTz_isTz a.len a.val).2.1 i h

theorem BV.bit_trailingZeros (a : BV) (h : a.trailingZeros < a.len) : a.bit a.trailingZeros = true :=
  (BV.natTz_isTz a.len a.val).2.2 h

theorem BV.trailingZeros_unique (a : BV) (t : Nat) (h0 : t ≤ a.len) (h1 : ∀ i, i < t → a.bit i = false)
    (h2 : t < a.len → a.bit t = true) : a.trailingZeros = t :=
  (BV.natTz_isTz a.len a.val).unique ⟨h0, h1, h2⟩

theorem BV.bit_of_leadingZeros (a : BV) (h : a.WF) :
    (∀ i, a.len - a.leadingZeros ≤ i → a.bit i = false) ∧
    (a.leadingZeros < a.len → a.bit (a.len - a.leadingZeros - 1) = true) := by
  have e := BV.leadingZeros_add_sig a h
  rw [Nat.sub_eq_of_eq_add ((Nat.add_comm _ _).trans e).symm]
  refine ⟨BV.bit_of_sig_le a, fun hlt => (BV.sig_top a).resolve_left fun h0 => ?_⟩
  rw [h0, Nat.add_zero] at e
  exact Nat.ne_of_lt hlt e

theorem BV.not_bit_of_lt (a : BV) (h : a.WF) {i : Nat} (hi : i < a.len) : a.not.bit i = !a.bit i := by
  rw [BV.not_bit a h, decide_eq_true hi, Bool.true_and]

theorem BV.bit_of_trailingOnes (a : BV) (h : a.WF) :
    (∀ i, i < a.trailingOnes → a.bit i = true) ∧
    (a.trailingOnes < a.len → a.bit a.trailingOnes = false) := by
  have hle := BV.trailingOnes_le_len a
  refine ⟨fun i hi => ?_, fun hlt => ?_⟩
  · have := BV.bit_of_lt_trailingZeros a.not i hi
    rwa [BV.not_bit_of_lt a h (Nat.lt_of_lt_of_le hi hle), Bool.not_eq_false'] at this
  · have : a.not.bit a.trailingOnes = true := BV.bit_trailingZeros a.not hlt
    rwa [BV.not_bit_of_lt a h hlt, Bool.not_eq_true'] at this

theorem BV.bit_of_leadingOnes (a : BV) (h : a.WF) :
    (∀ i, a.len - a.leadingOnes ≤ i → i < a.len → a.bit i = true) ∧
    (a.leadingOnes < a.len → a.bit (a.len - a.leadingOnes - 1) = false) := by
  obtain ⟨h1, h2⟩ := BV.bit_of_leadingZeros a.not (BV.not_wf a)
  refine ⟨fun i hi hl => ?_, fun hlt => ?_⟩
  · have := h1 i hi
    rwa [BV.not_bit_of_lt a h hl, Bool.not_eq_false'] at this
  · have : a.not.bit (a.len - a.leadingOnes - 1) = true := h2 hlt
    rwa [BV.not_bit_of_lt a h
      (Nat.lt_of_lt_of_le (Nat.sub_one_lt (Nat.sub_ne_zero_of_lt hlt)) (Nat.sub_le _ _)), Bool.not_eq_true'] at this

theorem BV.copyRange_zero_sig (a : BV) : a.copyRange 0 a.sig = ⟨a.sig, a.val⟩ := by
  unfold BV.copyRange BV.sig
  rw [Nat.sub_zero, Nat.shiftRight_zero, Nat.mod_eq_of_lt (BV.lt_two_pow_natBits a.val)]

end Bva
