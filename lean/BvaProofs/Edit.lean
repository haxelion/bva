import BvaProofs.Base
/-!
# Element edits and resizing

Each body gets the storage bits of its result (`Raw.bitAt_set`, `Raw.bitAt_shrink`, `Raw.bitAt_grow`); the refinement
follows from `Raw.refines_of_bits` and the `BV.*_bit` lemma of the specification (for `pop`, which keeps the bits below
`length - 1`, from `Raw.refines_mod_of_bits`).
-/
namespace Bva
variable {w : Nat}

theorem bitAt_fill (hw : 0 < w) (a b : Nat) (x : BitVec w) (ws : Array (BitVec w)) (i : Nat) :
    bitAt (forRange a b (fun i arr => arr.setIfInBounds i x) ws) i =
      if a * w ≤ i ∧ i < b * w ∧ i < ws.size * w then x.getLsbD (i % w) else bitAt ws i :=
  bitAt_of_wd_range hw (G := fun _ => x) (forRange_setWords (fun _ _ => x) a b ws).2 i

theorem size_fill (a b : Nat) (x : BitVec w) (ws : Array (BitVec w)) :
    (forRange a b (fun i arr => arr.setIfInBounds i x) ws).size = ws.size :=
  (forRange_setWords (fun _ _ => x) a b ws).1

theorem mask_one : mask w 1 = 1#w := by
  apply BitVec.eq_of_getLsbD_eq
  intro i hi
  rw [getLsbD_mask, BitVec.getLsbD_one, decide_eq_true hi, decide_eq_true (Nat.zero_lt_of_lt hi),
    decide_eq_decide.mpr Nat.lt_one_iff]

theorem Raw.set_data (s : Raw w) (i : Nat) (b : Bool) :
    (s.set i b).data = writeBits s.data i 1 (b2w w b) := by
  unfold Raw.set writeBits
  rw [mask_one]

theorem Raw.size_set (s : Raw w) (i : Nat) (b : Bool) : (s.set i b).data.size = s.data.size := by
  rw [Raw.set_data, size_writeBits]

theorem Raw.bitAt_set (s : Raw w) (i j : Nat) (b : Bool) (hw : 0 < w) (hi : i < s.data.size * w) :
    bitAt (s.set i b).data j = if j = i then b else bitAt s.data j := by
  rw [Raw.set_data, bitAt_writeBits _ _ _ _ _ hw (Nat.mod_lt i hw) hi
    (fun k hk => by rw [getLsbD_b2w, decide_eq_false (Nat.ne_of_gt hk), Bool.and_false, Bool.false_and])]
  by_cases h : j = i
  · subst h
    rw [if_pos ⟨Nat.le_refl j, Nat.lt_succ_self j⟩, if_pos rfl, Nat.sub_self, getLsbD_b2w]
    simp [hw]
  · rw [if_neg fun c => h (Nat.le_antisymm (Nat.le_of_lt_succ c.2) c.1), if_neg h]

theorem Raw.set_refines (s : Raw w) (i : Nat) (b : Bool) (hw : 0 < w) (h : s.Inv) (hi : i < s.length) :
    (s.set i b).Inv ∧ (s.set i b).abs = s.abs.set i b ∧ (s.set i b).data.size = s.data.size := by
  have hr := Raw.refines_of_bits (s.set i b) (s.abs.set i b) hw (BV.set_wf _ i b (h.wf hw) hi) rfl
    (by rw [Raw.size_set]; exact h.1)
    (fun j => by rw [Raw.bitAt_set s i j b hw (Nat.lt_of_lt_of_le hi h.1), BV.set_bit, Raw.abs_bit _ _ hw])
  exact ⟨hr.1, hr.2, Raw.size_set s i b⟩

theorem Raw.pop_refines (s : Raw w) (hw : 0 < w) (h : s.Inv) :
    (s.pop.1).Inv ∧ (s.pop.1.abs, s.pop.2) = s.abs.pop ∧ s.pop.1.data.size = s.data.size := by
  unfold Raw.pop BV.pop
  by_cases h0 : s.length > 0
  · have hc : s.length - 1 < s.data.size * w := Nat.lt_of_lt_of_le (Nat.sub_lt h0 Nat.one_pos) h.1
    -- (`s.abs.len` is `s.length` by definition; the `show`s spell it as the specification does, for `rw`)
    rw [if_pos h0, if_neg (show ¬ s.abs.len = 0 from Nat.ne_of_gt h0)]
    dsimp only
    -- clearing bit `length - 1` and dropping it keeps the bits below `length - 1`: the value mod `2 ^ (length - 1)`
    have hr := Raw.refines_mod_of_bits hw (m := (s.set (s.length - 1) false).data) (d := s.data) (s.length - 1)
      (by rw [Raw.size_set]; exact Nat.le_of_lt hc) fun j => by
        rw [Raw.bitAt_set s _ j false hw hc]
        by_cases hj : j < s.length - 1
        · rw [if_neg (Nat.ne_of_lt hj), decide_eq_true hj, Bool.and_true]
        · rw [decide_eq_false hj, Bool.and_false]
          -- `j` is neither below nor at `length - 1`, so the bit was zero before
          refine ite_eq_left_iff.mpr fun hj2 => h.2 j ?_
          exact Nat.le_of_pred_lt (Nat.lt_of_le_of_ne (Nat.le_of_not_lt hj) (Ne.symm hj2))
    refine ⟨hr.1, ?_, Raw.size_set _ _ _⟩
    rw [hr.2, Raw.get_eq_bitAt, Raw.abs_bit _ _ hw]; rfl
  · rw [if_neg h0, if_pos (show s.abs.len = 0 from Nat.eq_zero_of_not_pos h0)]
    exact ⟨h, rfl, rfl⟩

theorem Raw.size_shrink (s : Raw w) (n : Nat) : (s.shrink n).data.size = s.data.size := by
  unfold Raw.shrink
  rw [size_maskAt, size_fill]

theorem Raw.bitAt_shrink (s : Raw w) (n i : Nat) (hw : 0 < w) (h : s.Inv) :
    bitAt (s.shrink n).data i = (decide (i < n) && bitAt s.data i) := by
  unfold Raw.shrink
  dsimp only
  refine bitAt_masked (bitAt_maskAt _ _ _ hw fun j hj => ?_) fun hi => ?_
  · -- a bit from word `n / w + 1` on is cleared, or lies at or above `length`
    rw [bitAt_fill hw, BitVec.getLsbD_zero]
    refine ite_eq_left_iff.mpr fun c => h.2 j (Nat.le_trans (le_cap_mul _ hw) (Nat.le_of_not_lt fun c1 => c ⟨hj, c1, ?_⟩))
    exact Nat.lt_of_lt_of_le c1 (Nat.mul_le_mul_right w (h.cap_le_size hw))
  · rw [bitAt_fill hw, if_neg fun c => Nat.not_le.mpr (Nat.lt_trans hi (lt_succ_div_mul n hw)) c.1]

theorem Raw.shrink_refines (s : Raw w) (n : Nat) (b : Bool) (hw : 0 < w) (h : s.Inv) (hn : n ≤ s.length) :
    (s.shrink n).Inv ∧ (s.shrink n).abs = s.abs.resize n b ∧ (s.shrink n).data.size = s.data.size := by
  have hr := Raw.refines_of_bits (s.shrink n) (s.abs.resize n b) hw (BV.resize_wf _ _ _ (h.wf hw))
    (BV.resize_len ..).symm (by rw [Raw.size_shrink]; exact Nat.le_trans hn h.1)
    (fun j => by
      rw [Raw.bitAt_shrink s n j hw h, BV.resize_bit _ _ _ (h.wf hw), Raw.abs_bit _ _ hw]
      exact gate_congr Iff.rfl fun hj => (if_pos (show j < s.abs.len from Nat.lt_of_lt_of_le hj hn)).symm)
  exact ⟨hr.1, hr.2, Raw.size_shrink s n⟩

theorem getLsbD_sign (b : Bool) (k : Nat) :
    (if b then BitVec.allOnes w else 0#w).getLsbD k = (decide (k < w) && b) := by
  cases b
  · exact BitVec.getLsbD_zero.trans (Bool.and_false _).symm
  · exact (BitVec.getLsbD_allOnes ..).trans (Bool.and_true _).symm

theorem Raw.size_grow (s : Raw w) (n : Nat) (b : Bool) : (s.grow n b).data.size = s.data.size := by
  unfold Raw.grow
  rw [size_maskAt, size_fill, Array.size_modify]

/-- `data[len / w] |= sign & !mask(len % w)`, the first step of `grow`, for a word `sign` made of `b`s: `b` is OR-ed into
the rest of the word of bit `len` -/
theorem bitAt_orSign (ws : Array (BitVec w)) (len : Nat) {sign : BitVec w} {b : Bool} (hw : 0 < w)
    (hb : ∀ k, sign.getLsbD k = (decide (k < w) && b)) (hin : len < ws.size * w) (j : Nat) :
    bitAt (ws.modify (len / w) (· ||| (sign &&& ~~~ mask w (len % w)))) j =
      if len ≤ j ∧ j < len + (w - len % w) then (bitAt ws j || b) else bitAt ws j := by
  have hr := Nat.add_sub_cancel' (Nat.le_of_lt (Nat.mod_lt len hw))
  rw [modify_eq_setIfInBounds]
  refine bitAt_setChunk hw ws len (w - len % w) j _ (fun _ x => x || b) (Nat.le_of_eq hr) hin fun m hm => ?_
  -- bit `m` of the new word is the old bit OR `b && !(m < len % w)`
  rw [BitVec.getLsbD_or, BitVec.getLsbD_and, BitVec.getLsbD_not, getLsbD_mask, hb, decide_eq_true hm,
    Bool.true_and, Bool.true_and, Bool.true_and, hr]
  by_cases c : m < len % w
  · rw [decide_eq_true c, Bool.not_true, Bool.and_false, Bool.or_false,
      if_neg fun c' => Nat.not_le.mpr c c'.1]
  · rw [decide_eq_false c, Bool.not_false, Bool.and_true, if_pos ⟨Nat.le_of_not_lt c, hm⟩]

/-- the two fill steps of `grow`, before the final mask: from bit `len` on, where `ws` is empty, the words below `c` are
filled with `b` -/
theorem grow_fill_bits (ws : Array (BitVec w)) (len c : Nat) {sign : BitVec w} {b : Bool} (hw : 0 < w)
    (hb : ∀ k, sign.getLsbD k = (decide (k < w) && b)) (hin : len < ws.size * w)
    (hc : len / w < c) (hz : ∀ i, len ≤ i → bitAt ws i = false) (j : Nat) :
    bitAt (forRange (len / w + 1) c (fun i a => a.setIfInBounds i sign)
        (ws.modify (len / w) (· ||| (sign &&& ~~~ mask w (len % w))))) j
      = if len ≤ j ∧ j < c * w ∧ j < ws.size * w then b else bitAt ws j := by
  -- the first step fills up to the end `e` of the word of bit `len`, the loop from there on
  have e : len + (w - len % w) = (len / w + 1) * w := by
    conv => lhs; arg 1; rw [← Nat.div_add_mod' len w]
    rw [Nat.add_assoc, Nat.add_sub_cancel' (Nat.le_of_lt (Nat.mod_lt len hw)), Nat.succ_mul]
  have hq : (len / w + 1) * w ≤ c * w := Nat.mul_le_mul_right w hc
  have hs : (len / w + 1) * w ≤ ws.size * w := Nat.mul_le_mul_right w ((Nat.div_lt_iff_lt_mul hw).mpr hin)
  have hl := lt_succ_div_mul len hw
  rw [bitAt_fill hw, Array.size_modify, hb, decide_eq_true (Nat.mod_lt j hw), Bool.true_and,
    bitAt_orSign ws len hw hb hin, e]
  by_cases h1 : len ≤ j
  · -- the range `[e, c * w)` of the loop, as far as the words exist, and `[len, e)` of the first step join
    rw [hz j h1]
    refine ite_ite_same ⟨fun c => ?_, fun c => ?_⟩ b false
    · exact c.elim (fun c => ⟨h1, c.2⟩) fun c => ⟨h1, Nat.lt_of_lt_of_le c.2 hq, Nat.lt_of_lt_of_le c.2 hs⟩
    · exact (Nat.lt_or_ge j ((len / w + 1) * w)).elim (fun c' => .inr ⟨h1, c'⟩) fun c' => .inl ⟨c', c.2⟩
  · rw [if_neg fun c => h1 (Nat.le_trans (Nat.le_of_lt hl) c.1), if_neg fun c => h1 c.1, if_neg fun c => h1 c.1]

theorem Raw.bitAt_grow (s : Raw w) (n i : Nat) (b : Bool) (hw : 0 < w) (h : s.Inv)
    (h1 : s.length < n) (h2 : n ≤ s.data.size * w) :
    bitAt (s.grow n b).data i = (decide (i < n) && if i < s.length then bitAt s.data i else b) := by
  have hfill := grow_fill_bits s.data s.length (capFromBitLen w n) hw (getLsbD_sign b) (Nat.lt_of_lt_of_le h1 h2)
    (div_lt_cap _ _ hw h1) h.2
  unfold Raw.grow
  dsimp only
  refine bitAt_masked (bitAt_maskAt _ _ _ hw fun j hj => ?_) fun hn => ?_
  · -- from word `n / w + 1` on nothing was filled, and `s` is empty there
    have hc : capFromBitLen w n * w ≤ j := Nat.le_trans (Nat.mul_le_mul_right w (cap_le_succ n hw)) hj
    rw [hfill, if_neg fun c => Nat.not_le.mpr c.2.1 hc]
    exact h.2 j (Nat.le_trans (Nat.le_of_lt h1) (Nat.le_trans (le_cap_mul n hw) hc))
  · rw [hfill]
    by_cases hi : i < s.length
    · rw [if_neg fun c => Nat.not_le.mpr hi c.1, if_pos hi]
    · rw [if_pos ⟨Nat.le_of_not_lt hi, Nat.lt_of_lt_of_le hn (le_cap_mul n hw), Nat.lt_of_lt_of_le hn h2⟩, if_neg hi]

theorem Raw.grow_refines (s : Raw w) (n : Nat) (b : Bool) (hw : 0 < w) (h : s.Inv)
    (h1 : s.length < n) (h2 : n ≤ s.data.size * w) :
    (s.grow n b).Inv ∧ (s.grow n b).abs = s.abs.resize n b ∧ (s.grow n b).data.size = s.data.size := by
  have hr := Raw.refines_of_bits (s.grow n b) (s.abs.resize n b) hw (BV.resize_wf _ _ _ (h.wf hw))
    (BV.resize_len ..).symm (by rw [Raw.size_grow]; exact h2)
    (fun j => by rw [Raw.bitAt_grow s n j b hw h h1 h2, BV.resize_bit _ _ _ (h.wf hw), Raw.abs_bit _ _ hw]; rfl)
  exact ⟨hr.1, hr.2, Raw.size_grow s n b⟩

/-- the common body of `Bvf::push` / `Bvd::push` once capacity is available -/
theorem Raw.push_core (s : Raw w) (b : Bool) (hw : 0 < w) (h : s.Inv) (hc : s.length < s.data.size * w) :
    (({ s with length := s.length + 1 } : Raw w).set s.length b).Inv ∧
    (({ s with length := s.length + 1 } : Raw w).set s.length b).abs = s.abs.push b ∧
    (({ s with length := s.length + 1 } : Raw w).set s.length b).data.size = s.data.size := by
  have hr := Raw.refines_of_bits (({ s with length := s.length + 1 } : Raw w).set s.length b) (s.abs.push b) hw
    (BV.push_wf _ b (h.wf hw)) rfl (by rw [Raw.size_set]; exact hc)
    (fun j => by
      rw [Raw.bitAt_set { s with length := s.length + 1 } _ j b hw hc, BV.push_bit _ b (h.wf hw),
        Raw.abs_bit _ _ hw, Raw.abs_len]
      by_cases hj : j = s.length
      · rw [if_pos hj, if_neg (Nat.not_lt.mpr (Nat.le_of_eq hj.symm)), decide_eq_true hj, Bool.true_and]
      · rw [if_neg hj, decide_eq_false hj, Bool.false_and]
        exact (ite_eq_left_iff.mpr fun c => (h.2 j (Nat.le_of_not_lt c)).symm).symm)
  exact ⟨hr.1, hr.2, Raw.size_set _ _ _⟩

theorem Bvf.push_ok (s : Raw w) (b : Bool) (hw : 0 < w) (h : s.Inv) (hc : s.length < s.data.size * w) :
    ∃ r, Bvf.push s b = .ok r ∧ r.Inv ∧ r.abs = s.abs.push b ∧ r.data.size = s.data.size := by
  unfold Bvf.push Raw.cap
  rw [if_pos hc]
  exact ⟨_, rfl, Raw.push_core s b hw h hc⟩

theorem Bvf.push_panic (s : Raw w) (b : Bool) (hc : s.data.size * w ≤ s.length) :
    Bvf.push s b = .panic := by
  unfold Bvf.push Raw.cap
  rw [if_neg (Nat.not_lt.mpr hc)]

theorem Bvf.resize_ok (s : Raw w) (n : Nat) (b : Bool) (hw : 0 < w) (h : s.Inv)
    (hn : n ≤ s.data.size * w ∨ n ≤ s.length) :
    ∃ r, Bvf.resize s n b = .ok r ∧ r.Inv ∧ r.abs = s.abs.resize n b ∧ r.data.size = s.data.size := by
  have hcap : n ≤ s.data.size * w := hn.elim id fun c => Nat.le_trans c h.1
  unfold Bvf.resize Raw.cap
  by_cases h1 : n < s.length
  · rw [if_pos h1]
    exact ⟨_, rfl, Raw.shrink_refines s n b hw h (Nat.le_of_lt h1)⟩
  · rw [if_neg h1]
    by_cases h2 : n > s.length
    · rw [if_pos h2, if_pos hcap]
      exact ⟨_, rfl, Raw.grow_refines s n b hw h h2 hcap⟩
    · rw [if_neg h2]
      obtain rfl : n = s.length := Nat.le_antisymm (Nat.le_of_not_lt h2) (Nat.le_of_not_lt h1)
      exact ⟨_, rfl, h, (BV.resize_self s.abs b (h.wf hw)).symm, rfl⟩

theorem Bvf.resize_panic (s : Raw w) (n : Nat) (b : Bool) (h1 : s.data.size * w < n) (h2 : s.length < n) :
    Bvf.resize s n b = .panic := by
  unfold Bvf.resize Raw.cap
  rw [if_neg (Nat.lt_asymm h2), if_pos h2, if_neg (Nat.not_le.mpr h1)]

theorem Raw.zeros_refines (N n : Nat) (hw : 0 < w) (hn : n ≤ N * w) :
    (⟨Array.replicate N 0#w, n⟩ : Raw w).Inv ∧ (⟨Array.replicate N 0#w, n⟩ : Raw w).abs = BV.zeros n :=
  Raw.refines_of_bits _ _ hw (BV.zeros_wf n) rfl (by rw [Array.size_replicate]; exact hn)
    (fun i => by rw [bitAt_replicate, BV.zeros_bit, BitVec.getLsbD_zero, Bool.and_false])

theorem Bvf.zeros_ok (N n : Nat) (hw : 0 < w) (hn : n ≤ N * w) :
    ∃ r, Bvf.zeros w N n = .ok r ∧ r.Inv ∧ r.abs = BV.zeros n ∧ r.data.size = N := by
  unfold Bvf.zeros
  rw [if_neg (Nat.not_lt.mpr hn)]
  exact ⟨_, rfl, (Raw.zeros_refines N n hw hn).1, (Raw.zeros_refines N n hw hn).2, Array.size_replicate ..⟩

theorem Bvf.zeros_panic (N n : Nat) (hn : N * w < n) : Bvf.zeros w N n = .panic := by
  unfold Bvf.zeros
  rw [if_pos hn]

/-- what `Bvf::ones` and `Bvd::ones` share: `N` all-ones words cut back to `n` bits by `m` (`mod2n`, or the last-word mask) -/
theorem Raw.ones_refines {N n : Nat} (hw : 0 < w) (hn : n ≤ N * w) {m : Array (BitVec w)} (hsz : m.size = N)
    (hm : ∀ i, bitAt m i = (bitAt (Array.replicate N (BitVec.allOnes w)) i && decide (i < n))) :
    (⟨m, n⟩ : Raw w).Inv ∧ (⟨m, n⟩ : Raw w).abs = BV.ones n ∧ m.size = N :=
  have hr := Raw.refines_of_bits ⟨m, n⟩ (BV.ones n) hw (BV.ones_wf n) rfl (hsz ▸ hn) fun i => by
    rw [hm, bitAt_replicate, BV.ones_bit, BitVec.getLsbD_allOnes, decide_eq_true (Nat.mod_lt i hw), Bool.and_true]
    -- a bit below `n` lies in one of the `N` words
    exact Bool.and_eq_right_iff_imp.mpr fun hi =>
      decide_eq_true ((Nat.div_lt_iff_lt_mul hw).mpr (Nat.lt_of_lt_of_le (of_decide_eq_true hi) hn))
  ⟨hr.1, hr.2, hsz⟩

theorem Bvf.ones_ok (N n : Nat) (hw : 0 < w) (hn : n ≤ N * w) :
    ∃ r, Bvf.ones w N n = .ok r ∧ r.Inv ∧ r.abs = BV.ones n ∧ r.data.size = N := by
  unfold Bvf.ones
  rw [if_neg (Nat.not_lt.mpr hn)]
  exact ⟨_, rfl, Raw.ones_refines hw hn ((size_mod2n ..).trans (Array.size_replicate ..)) fun i => bitAt_mod2n _ n i hw⟩

theorem Bvf.ones_panic (N n : Nat) (hn : N * w < n) : Bvf.ones w N n = .panic := by
  unfold Bvf.ones
  rw [if_pos hn]

theorem Raw.realloc_refines (s : Raw w) (c : Nat) (hw : 0 < w) (h : s.Inv) (hc : s.length ≤ c * w) :
    (⟨Array.ofFn (n := c) fun i => wd s.data i.val, s.length⟩ : Raw w).Inv ∧
    (⟨Array.ofFn (n := c) fun i => wd s.data i.val, s.length⟩ : Raw w).abs = s.abs :=
  Raw.refines_of_bits _ _ hw (h.wf hw) rfl (by rw [Array.size_ofFn]; exact hc)
    (fun j => by
      rw [Raw.abs_bit _ _ hw, bitAt_eq, wd_ofFn]
      split
      · rfl
      · rename_i hj
        rw [h.2 j (Nat.le_trans hc ((Nat.le_div_iff_mul_le hw).mp (Nat.le_of_not_lt hj)))]
        exact BitVec.getLsbD_zero)

theorem Bvd.reserve_length (s : Raw 64) (k : Nat) : (Bvd.reserve s k).length = s.length := by
  unfold Bvd.reserve; simp only; split <;> rfl

theorem Bvd.reserve_refines (s : Raw 64) (k : Nat) (h : s.Inv) :
    (Bvd.reserve s k).Inv ∧ (Bvd.reserve s k).abs = s.abs ∧
    s.length + k ≤ (Bvd.reserve s k).data.size * 64 ∧
    (Bvd.reserve s k).length = s.length ∧ s.data.size ≤ (Bvd.reserve s k).data.size := by
  have hw : 0 < 64 := by decide
  unfold Bvd.reserve Bvd.capW
  simp only
  have hcap := le_cap_mul (w := 64) (s.length + k) hw
  split
  · rename_i hc
    have hr := Raw.realloc_refines s (capFromBitLen 64 (s.length + k)) hw h (Nat.le_trans (Nat.le_add_right _ _) hcap)
    refine ⟨hr.1, hr.2, ?_, rfl, ?_⟩
    · dsimp only; rw [Array.size_ofFn]; exact hcap
    · dsimp only; rw [Array.size_ofFn]; exact Nat.le_of_lt hc
  · rename_i hc
    exact ⟨h, rfl, (cap_le_iff (w := 64) _ _ hw).mp (Nat.le_of_not_lt hc), rfl, Nat.le_refl _⟩

theorem Bvd.shrinkToFit_refines (s : Raw 64) (h : s.Inv) :
    (Bvd.shrinkToFit s).Inv ∧ (Bvd.shrinkToFit s).abs = s.abs ∧
    (Bvd.shrinkToFit s).data.size = capFromBitLen 64 s.length := by
  have hw : 0 < 64 := by decide
  unfold Bvd.shrinkToFit Bvd.capW
  split
  · have hr := Raw.realloc_refines s (capFromBitLen 64 s.length) hw h (le_cap_mul _ hw)
    exact ⟨hr.1, hr.2, Array.size_ofFn ..⟩
  · rename_i hc
    exact ⟨h, rfl, Nat.le_antisymm (Nat.le_of_not_lt hc) (h.cap_le_size hw)⟩

theorem Bvd.push_refines (s : Raw 64) (b : Bool) (h : s.Inv) :
    (Bvd.push s b).Inv ∧ (Bvd.push s b).abs = s.abs.push b := by
  obtain ⟨r1, r2, r3, r4, _⟩ := Bvd.reserve_refines s 1 h
  unfold Bvd.push
  obtain ⟨p1, p2, _⟩ := Raw.push_core (Bvd.reserve s 1) b (by decide) r1 (by rw [r4]; exact r3)
  exact ⟨p1, by rw [p2, r2]⟩

theorem Bvd.resize_refines (s : Raw 64) (n : Nat) (b : Bool) (h : s.Inv) :
    (Bvd.resize s n b).Inv ∧ (Bvd.resize s n b).abs = s.abs.resize n b := by
  have hw : 0 < 64 := by decide
  unfold Bvd.resize
  by_cases h1 : n < s.length
  · rw [if_pos h1]
    obtain ⟨p1, p2, _⟩ := Raw.shrink_refines s n b hw h (Nat.le_of_lt h1)
    exact ⟨p1, p2⟩
  · rw [if_neg h1]
    by_cases h2 : n > s.length
    · rw [if_pos h2]
      obtain ⟨r1, r2, r3, r4, _⟩ := Bvd.reserve_refines s (n - s.length) h
      rw [Nat.add_sub_cancel' (Nat.le_of_lt h2)] at r3
      obtain ⟨p1, p2, _⟩ := Raw.grow_refines (Bvd.reserve s (n - s.length)) n b hw r1 (r4.symm ▸ h2) r3
      exact ⟨p1, by rw [p2, r2]⟩
    · rw [if_neg h2]
      obtain rfl : n = s.length := Nat.le_antisymm (Nat.le_of_not_lt h2) (Nat.le_of_not_lt h1)
      exact ⟨h, (BV.resize_self s.abs b (h.wf hw)).symm⟩

theorem Bvd.zeros_refines (n : Nat) :
    (Bvd.zeros n).Inv ∧ (Bvd.zeros n).abs = BV.zeros n ∧ (Bvd.zeros n).data.size = capFromBitLen 64 n :=
  have hr := Raw.zeros_refines (w := 64) (capFromBitLen 64 n) n (by decide) (le_cap_mul n (by decide))
  ⟨hr.1, hr.2, Array.size_replicate ..⟩

theorem Bvd.withCapacity_refines (c : Nat) :
    (Bvd.withCapacity c).Inv ∧ (Bvd.withCapacity c).abs = BV.zeros 0 ∧
    (Bvd.withCapacity c).data.size = capFromBitLen 64 c ∧ c ≤ (Bvd.withCapacity c).data.size * 64 := by
  have hr := Raw.zeros_refines (w := 64) (capFromBitLen 64 c) 0 (by decide) (Nat.zero_le _)
  refine ⟨hr.1, hr.2, Array.size_replicate .., ?_⟩
  unfold Bvd.withCapacity
  rw [Array.size_replicate]; exact le_cap_mul c (by decide)

theorem Bvd.ones_refines (n : Nat) :
    (Bvd.ones n).Inv ∧ (Bvd.ones n).abs = BV.ones n ∧ (Bvd.ones n).data.size = capFromBitLen 64 n := by
  -- unfolded first: left folded, the unifier unfolds `maskLast` before it reduces the projection `(Bvd.ones n).data`
  unfold Bvd.ones
  dsimp only
  exact Raw.ones_refines (by decide) (le_cap_mul n (by decide)) ((Array.size_modify ..).trans (Array.size_replicate ..))
    fun i => Bvd.bitAt_maskLast _ n i (Array.size_replicate ..)

end Bva
