import Lean.Meta.Tactic.Simp.RegisterCommand

/-- length and bit `i` of an L0 operation in terms of its operands (`BvaProofs/L0.lean`), for use after `BV.ext_bits` -/
register_simp_attr bv_bit

/-- the refinement theorems `Cxx_*` read as rewriting rules `(Api.op v x).Inv`, `(Api.op v x).abs = …` (and the scalars an API call
returns) under `Inv` of the operands -/
register_simp_attr e2e
