import BvaProofs.Bits
import BvaProofs.Val
import BvaProofs.L0
import BvaModel.Dynamic
/-!
`abs` read bit by bit (`Raw.abs_bit`): a refinement `Inv ∧ abs = b` is an equation between storage bits and the bits of `b`
(`Raw.refines_of_bits`), and each masking idiom of the code (`mod2n`, `maskAt`, `maskLast`) is `bitAt ws i && decide (i < n)`.
-/
namespace Bva
variable {w : Nat}

theorem and_one_ne_zero (x : BitVec w) (k : Nat) :
    ((x >>> k) &&& 1#w != 0#w) = x.getLsbD k := by
  have h0 : ((x >>> k) &&& 1#w).getLsbD 0 = (x.getLsbD k && decide (0 < w)) := by
    rw [BitVec.getLsbD_and, BitVec.getLsbD_ushiftRight, BitVec.getLsbD_one, Nat.add_zero, decide_eq_true rfl,
      Bool.and_true]
  cases hb : x.getLsbD k
  · have e : (x >>> k) &&& 1#w = 0#w := by
      apply BitVec.eq_of_getLsbD_eq
      intro i hi
      by_cases hi0 : i = 0
      · rw [hi0, h0, hb, BitVec.getLsbD_zero, Bool.false_and]
      · rw [BitVec.getLsbD_and, BitVec.getLsbD_one, decide_eq_false hi0, Bool.and_false, Bool.and_false,
          BitVec.getLsbD_zero]
    rw [e]; exact bne_self_eq_false _
  · refine bne_iff_ne.mpr fun e => ?_
    rw [e, hb, decide_eq_true (Nat.zero_lt_of_lt (BitVec.lt_of_getLsbD hb)), BitVec.getLsbD_zero] at h0
    exact Bool.noConfusion h0

theorem and_one_ne_zero' (x : BitVec w) : ((x &&& 1#w) != 0#w) = x.getLsbD 0 := by
  simpa using and_one_ne_zero x 0

theorem Raw.get_eq_bitAt (s : Raw w) (i : Nat) : s.get i = bitAt s.data i := by
  unfold Raw.get bitAt; exact and_one_ne_zero _ _

theorem Raw.abs_len (s : Raw w) : s.abs.len = s.length := rfl

theorem AnyBv.abs_len (x : AnyBv) : x.abs.len = x.len := by cases x <;> rfl

theorem Raw.abs_bit (s : Raw w) (i : Nat) (hw : 0 < w) : s.abs.bit i = bitAt s.data i :=
  testBit_valAll hw s.data i

theorem Raw.Inv.wf {s : Raw w} (h : s.Inv) (hw : 0 < w) : s.abs.WF :=
  BV.wf_of_bits _ fun i hi => by rw [Raw.abs_bit _ _ hw]; exact h.2 i hi

/-- the executable invariant check of the driver is the invariant -/
theorem Raw.invB_iff (s : Raw w) (hw : 0 < w) : s.invB = true ↔ s.Inv := by
  unfold Raw.invB Raw.Inv
  simp only [Bool.and_eq_true, decide_eq_true_eq]
  constructor
  · rintro ⟨h1, h2⟩
    exact ⟨h1, fun i hi => (testBit_valAll hw s.data i).symm.trans (testBit_of_lt h2 hi)⟩
  · rintro ⟨h1, h2⟩
    exact ⟨h1, Raw.Inv.wf ⟨h1, h2⟩ hw⟩

/-- How the refinement proofs end: a result of the right length, within its allocation, whose storage bits are
the bits of a well-formed `b` satisfies the invariant and abstracts to `b`. -/
theorem Raw.refines_of_bits (t : Raw w) (b : BV) (hw : 0 < w) (hb : b.WF) (hl : t.length = b.len)
    (hcap : t.length ≤ t.data.size * w) (hbit : ∀ i, bitAt t.data i = b.bit i) : t.Inv ∧ t.abs = b :=
  ⟨⟨hcap, fun i hi => by rw [hbit]; exact b.bit_of_le_len hb i (hl ▸ hi)⟩,
    BV.ext_bits hl fun i => by rw [Raw.abs_bit _ _ hw, hbit]⟩

theorem Raw.abs_eq_of_bits {w1 w2 : Nat} (s : Raw w1) (t : Raw w2) (h1 : 0 < w1) (h2 : 0 < w2)
    (hl : s.length = t.length) (hb : ∀ i, bitAt s.data i = bitAt t.data i) : s.abs = t.abs :=
  BV.ext_bits hl fun i => by rw [Raw.abs_bit _ _ h1, Raw.abs_bit _ _ h2, hb]

theorem size_mod2n (ws : Array (BitVec w)) (n : Nat) : (mod2n ws n).size = ws.size := by
  simp [mod2n]

theorem bitAt_mod2n (ws : Array (BitVec w)) (n i : Nat) (hw : 0 < w) :
    bitAt (mod2n ws n) i = (bitAt ws i && decide (i < n)) := by
  have mi := Nat.mod_lt i hw
  rw [mod2n, bitAt_eq, wd_mapIdx]
  by_cases h : i / w < ws.size
  · -- the mask of word `i / w` has `n - i / w * w` bits (at most `w`): it keeps bit `i % w` iff `i < n`
    have keeps : i % w < min (n - i / w * w) w ↔ i < n :=
      Nat.lt_min.trans ((and_iff_left mi).trans (Nat.lt_sub_iff_add_lt'.trans (by rw [Nat.div_add_mod'])))
    rw [if_pos h, BitVec.getLsbD_and, getLsbD_mask, decide_eq_true mi, Bool.true_and, bitAt_eq,
      ← Nat.sub_eq_sub_min, decide_eq_decide.mpr keeps]
  · rw [if_neg h, bitAt_eq, wd_oob _ _ (Nat.le_of_not_lt h), BitVec.getLsbD_zero, Bool.false_and]

theorem size_maskAt (ws : Array (BitVec w)) (n : Nat) : (maskAt ws n).size = ws.size := by
  simp [maskAt]

/-- the last-word mask idiom, when everything from the next word on is already zero -/
theorem bitAt_maskAt (ws : Array (BitVec w)) (n i : Nat) (hw : 0 < w)
    (hz : ∀ j, (n / w + 1) * w ≤ j → bitAt ws j = false) :
    bitAt (maskAt ws n) i = (bitAt ws i && decide (i < n)) := by
  rw [maskAt, modify_eq_setIfInBounds, bitAt_setIfInBounds]
  by_cases h : i / w = n / w ∧ n / w < ws.size
  · -- in the masked word, `i` and `n` compare as their positions in it
    have ei := Nat.div_add_mod' i w
    rw [h.1] at ei
    rw [if_pos h, BitVec.getLsbD_and, getLsbD_mask, decide_eq_true (Nat.mod_lt i hw), Bool.true_and, bitAt_eq, h.1,
      decide_eq_decide.mpr (show i % w < n % w ↔ i < n by
        rw [← Nat.add_lt_add_iff_left (k := n / w * w), ei, Nat.div_add_mod'])]
  · rw [if_neg h]
    by_cases hi : i < n
    · rw [decide_eq_true hi, Bool.and_true]
    · -- from `n` on, every word but the masked one is zero: it lies beyond the array, or `hz` says so
      rw [decide_eq_false hi, Bool.and_false]
      by_cases hq : i / w = n / w
      · exact bitAt_oob _ _ ((Nat.le_div_iff_mul_le hw).mp (hq ▸ Nat.le_of_not_lt fun c => h ⟨hq, c⟩)) hw
      · exact hz i ((Nat.le_div_iff_mul_le hw).mp (Nat.succ_le_of_lt
          (Nat.lt_of_le_of_ne (Nat.div_le_div_right (Nat.le_of_not_lt hi)) (Ne.symm hq))))

theorem div_lt_size_of_lt_length {s : Raw w} (h : s.Inv) (hw : 0 < w) {i : Nat} (hi : i < s.length) :
    i / w < s.data.size :=
  div_lt_of_lt_mul i _ hw (Nat.lt_of_lt_of_le hi h.1)

theorem Raw.Inv.wd_zero {s : Raw w} (h : s.Inv) (hw : 0 < w) (k : Nat) (hk : capFromBitLen w s.length ≤ k) :
    wd s.data k = 0#w := by
  apply BitVec.eq_of_getLsbD_eq
  intro j hj
  rw [getLsbD_wd _ _ _ hj, BitVec.getLsbD_zero]
  exact h.2 _ (Nat.le_trans (le_cap_mul _ hw) (Nat.le_trans (Nat.mul_le_mul_right w hk) (Nat.le_add_right _ _)))

theorem bitAt_maskAt_of_used (d : Array (BitVec w)) (n i : Nat) (hw : 0 < w)
    (hz : ∀ k, capFromBitLen w n ≤ k → wd d k = 0#w) :
    bitAt (maskAt d n) i = (bitAt d i && decide (i < n)) := by
  refine bitAt_maskAt d n i hw fun j hj => ?_
  have h1 : n / w + 1 ≤ j / w := (Nat.le_div_iff_mul_le hw).mpr hj
  rw [bitAt_eq, hz _ (Nat.le_trans (cap_le_succ n hw) h1)]
  exact BitVec.getLsbD_zero

theorem Raw.Inv.bitAt_eq_of {s : Raw w} (h : s.Inv) {j : Nat} {x : Bool} (hx : j < s.length → bitAt s.data j = x) :
    bitAt s.data j = (decide (j < s.length) && x) := by
  by_cases hj : j < s.length
  · rw [decide_eq_true hj, Bool.true_and, hx hj]
  · rw [decide_eq_false hj, Bool.false_and, h.2 j (Nat.not_lt.mp hj)]

theorem bitAt_masked {m d : Array (BitVec w)} {n i : Nat} {g : Bool}
    (hm : bitAt m i = (bitAt d i && decide (i < n))) (hd : i < n → bitAt d i = g) :
    bitAt m i = (decide (i < n) && g) := by
  rw [hm, Bool.and_comm]
  by_cases hi : i < n
  · rw [hd hi]
  · rw [decide_eq_false hi, Bool.false_and, Bool.false_and]

theorem lastBits_eq (hw : 0 < w) (len : Nat) :
    lastBits w len = if len % w = 0 then w else len % w := by
  unfold lastBits
  by_cases h : len = 0
  · rw [if_pos h, h, Nat.zero_mod, if_pos rfl]
  · obtain ⟨p, rfl⟩ := Nat.exists_eq_succ_of_ne_zero h
    have hr := Nat.mod_lt p hw
    rw [if_neg h, Nat.succ_sub_one, Nat.succ_eq_add_one, ← Nat.mod_add_mod p w 1]
    generalize p % w = r at hr
    by_cases h1 : r + 1 < w
    · rw [Nat.mod_eq_of_lt h1, if_neg (Nat.succ_ne_zero r)]
    · rw [show r + 1 = w from Nat.le_antisymm hr (Nat.not_lt.mp h1), Nat.mod_self, if_pos rfl]

/-- the `mask(length.wrapping_sub(1) % BIT_UNIT + 1)` idiom, applied at word `k`, where `k` is the word
of bit `len` whenever `len` is not a multiple of `w` (otherwise the mask is all ones and `k` is irrelevant) -/
theorem bitAt_modify_lastBits (ws : Array (BitVec w)) (len k i : Nat) (hw : 0 < w)
    (hk : len % w ≠ 0 → k = len / w)
    (hz : ∀ j, capFromBitLen w len * w ≤ j → bitAt ws j = false) :
    bitAt (ws.modify k (· &&& mask w (lastBits w len))) i = (bitAt ws i && decide (i < len)) := by
  rw [lastBits_eq hw]
  by_cases h0 : len % w = 0
  · -- the mask is all ones, and the used words end at bit `len`
    have hcap : capFromBitLen w len * w = len := by
      rw [capFromBitLen_eq hw, if_pos h0, Nat.div_mul_cancel (Nat.dvd_of_mod_eq_zero h0)]
    rw [if_pos h0, bitAt_eq, wd_modify]
    simp only [mask_full, ite_self]
    rw [← bitAt_eq]
    by_cases hi : i < len
    · rw [decide_eq_true hi, Bool.and_true]
    · rw [decide_eq_false hi, Bool.and_false]; exact hz i (Nat.le_trans (Nat.le_of_eq hcap) (Nat.le_of_not_lt hi))
  · rw [if_neg h0, hk h0]
    exact bitAt_maskAt ws len i hw fun j hj =>
      hz j (Nat.le_trans (Nat.mul_le_mul_right w (cap_le_succ len hw)) hj)

theorem Bvd.bitAt_maskLast (A : Array (BitVec 64)) (len i : Nat) (hsz : A.size = capFromBitLen 64 len) :
    bitAt (Bvd.maskLast A len) i = (bitAt A i && decide (i < len)) := by
  have hw : 0 < 64 := by decide
  refine bitAt_modify_lastBits _ _ _ _ hw (fun h0 => ?_) (fun j hj => bitAt_oob _ _ (hsz ▸ hj) hw)
  rw [hsz, capFromBitLen_eq hw, if_neg h0, Nat.add_sub_cancel]

theorem Raw.Inv.cap_le_size {s : Raw w} (h : s.Inv) (hw : 0 < w) : capFromBitLen w s.length ≤ s.data.size :=
  (cap_le_iff _ _ hw).mpr h.1

theorem Raw.Inv.valUpTo_eq {s : Raw w} (h : s.Inv) (hw : 0 < w) (n : Nat) (hn : s.length ≤ w * n) :
    valUpTo s.data n = s.abs.val := by
  rw [valUpTo_eq_mod hw]
  exact Nat.mod_eq_of_lt (lt_two_pow_of_le (h.wf hw) hn)

/-- an array that keeps the bits of `d` below `n` and clears the rest is a vector of `n` bits holding
`valAll d % 2^n`: what `mod2n` and the last-word mask `maskAt` produce -/
theorem Raw.refines_mod_of_bits (hw : 0 < w) {m d : Array (BitVec w)} (n : Nat) (hn : n ≤ m.size * w)
    (hm : ∀ i, bitAt m i = (bitAt d i && decide (i < n))) :
    (⟨m, n⟩ : Raw w).Inv ∧ (⟨m, n⟩ : Raw w).abs = ⟨n, valAll d % 2 ^ n⟩ :=
  Raw.refines_of_bits ⟨m, n⟩ ⟨n, valAll d % 2 ^ n⟩ hw (Nat.mod_lt _ (Nat.two_pow_pos n)) rfl hn fun i => by
    rw [hm, BV.bit, Nat.testBit_mod_two_pow, testBit_valAll hw, Bool.and_comm]

end Bva
