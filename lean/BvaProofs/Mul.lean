import BvaProofs.Carry
import Mathlib.Algebra.Group.Nat.Defs
/-!
# Multiplication

A row of the schoolbook product is a carry chain (`ChainInv`, `sub = false`) whose step adds the double word `a · f j`;
the carry is then a whole word, not a bit.  `Mathlib.Algebra.Group.Nat.Defs` is imported for its `Monoid ℕ` instance only:
the statements downstream elaborate `2 ^ n` through it.
-/
namespace Bva
variable {w : Nat}

theorem two_digit_lt {H a0 a1 : Nat} (h0 : a0 < H) (h1 : a1 < H) : H * a1 + a0 < H * H :=
  Nat.add_comm .. ▸ add_mul_lt_mul h0 h1

theorem mac_lt {X a b c d : Nat} (ha : a < X) (hb : b < X) (hc : c < X) (hd : d < X) :
    a * b + c + d < X * X := by
  -- with `X = Y + 1`: `a·b + c + d ≤ Y·Y + Y + Y`, one less than `X·X`
  obtain ⟨Y, rfl⟩ := Nat.exists_eq_add_one.mpr (Nat.zero_lt_of_lt ha)
  rw [Nat.succ_mul_succ]
  exact Nat.lt_succ_of_le (Nat.add_le_add (Nat.add_le_add (Nat.mul_le_mul (Nat.le_of_lt_succ ha) (Nat.le_of_lt_succ hb))
    (Nat.le_of_lt_succ hc)) (Nat.le_of_lt_succ hd))

/-- the high digit of a number below `X²` -/
theorem high_digit_lt {X r s t : Nat} (h : r + X * s = t) (ht : t < X * X) : s < X :=
  Nat.lt_of_mul_lt_mul_left (a := X) (Nat.lt_of_le_of_lt (Nat.le_add_left _ _) (h ▸ ht))

/-- one inner-loop step on numbers: `product = a.wmul(b); carry' = res.cadd(product.0, carry) + product.1` -/
theorem mul_step_nat {X a b lo hi res carry r c : Nat}
    (ha : a < X) (hb : b < X) (hres : res < X) (hcarry : carry < X)
    (hprod : a * b = lo + X * hi)
    (hcadd : res + lo + carry = r + X * c) :
    c + hi < X ∧ r + X * (c + hi) = res + a * b + carry := by
  have h3 : r + X * (c + hi) = res + a * b + carry := by
    rw [hprod, Nat.mul_add, ← Nat.add_assoc, ← hcadd, Nat.add_right_comm, Nat.add_assoc res]
  exact ⟨high_digit_lt h3 (Nat.add_comm res _ ▸ mac_lt ha hb hres hcarry), h3⟩

theorem two_pow_eq_sq_half {h : Nat} (hw : w = 2 * h) : (2 : Nat) ^ w = 2 ^ h * 2 ^ h := by
  rw [hw, Nat.two_mul, Nat.pow_add]

theorem wmulWide_spec (a b : BitVec w) :
    (wmulWide a b).1.toNat + 2 ^ w * (wmulWide a b).2.toNat = a.toNat * b.toNat := by
  -- nothing wraps: the product is below `2^w · 2^w = 2^(2w)` (`hlt`), its high half below `2^w` (`hd`), and `2^w ≤ 2^(2w)` (`hle`)
  have hlt := Nat.mul_lt_mul'' a.isLt b.isLt
  have hd := Nat.div_lt_of_lt_mul hlt
  rw [← two_pow_eq_sq_half rfl] at hlt
  have hle := Nat.pow_le_pow_right (n := 2) (by decide) (Nat.le_mul_of_pos_left w (by decide : 0 < 2))
  unfold wmulWide
  simp only [BitVec.toNat_setWidth, BitVec.toNat_mul, BitVec.toNat_ushiftRight, Nat.shiftRight_eq_div_pow]
  rw [Nat.mod_eq_of_lt (Nat.lt_of_lt_of_le a.isLt hle), Nat.mod_eq_of_lt (Nat.lt_of_lt_of_le b.isLt hle),
    Nat.mod_eq_of_lt hlt, Nat.mod_eq_of_lt hd]
  exact Nat.mod_add_div _ _

theorem two_digit_mul (H a0 a1 b0 b1 : Nat) :
    (H * a1 + a0) * (H * b1 + b0) = H * H * (a1 * b1) + H * (a1 * b0) + (H * (a0 * b1) + a0 * b0) := by
  rw [Nat.add_mul, Nat.mul_add, Nat.mul_add, Nat.mul_mul_mul_comm, Nat.mul_assoc H a1 b0, Nat.mul_left_comm a0 H b1]

/-- `u128::wmul` on numbers, in base `H` (a half word) with `X = H²`: `p0` and `p3` are the low and the high product, `q_i` and
`s_i` the cross products shifted right and left by a half word, `lo` and `c` the sum `p0 + s1 + s2` with its carry.  First
conjunct: the high word does not overflow. -/
theorem mul_split_nat {H X a0 a1 b0 b1 p0 p3 q1 q2 s1 s2 lo c : Nat} (hX : X = H * H)
    (ha0 : a0 < H) (ha1 : a1 < H) (hb0 : b0 < H) (hb1 : b1 < H)
    (e0 : p0 = a0 * b0) (e3 : p3 = a1 * b1) (eq1 : q1 = a1 * b0 / H) (eq2 : q2 = a0 * b1 / H)
    (es1 : s1 = a1 * b0 % H * H) (es2 : s2 = a0 * b1 % H * H) (hc : lo + X * c = p0 + s1 + s2) :
    p3 + q1 + q2 + c < X ∧ lo + X * (p3 + q1 + q2 + c) = (H * a1 + a0) * (H * b1 + b0) := by
  subst hX e0 e3 eq1 eq2 es1 es2
  -- a cross product `p`, shifted left and right by a half word and put back together, is `H · p`
  have join : ∀ p, p % H * H + H * H * (p / H) = H * p := fun p => by
    rw [Nat.mul_comm _ H, Nat.mul_assoc, ← Nat.mul_add, Nat.mod_add_div]
  have k : lo + H * H * (a1 * b1 + a1 * b0 / H + a0 * b1 / H + c) = (H * a1 + a0) * (H * b1 + b0) := by
    -- the product digit by digit, the cross products taken apart, `lo + X·c` by `hc`; what is left is reordering
    rw [two_digit_mul, ← join (a1 * b0), ← join (a0 * b1), Nat.mul_add _ _ c, Nat.add_left_comm, hc, Nat.mul_add,
      Nat.mul_add]
    ac_rfl
  exact ⟨high_digit_lt k (Nat.mul_lt_mul'' (two_digit_lt ha0 ha1) (two_digit_lt hb0 hb1)), k⟩

theorem toNat_lowHalf {h : Nat} (hh : h < w) (a : BitVec w) :
    (a &&& ((1#w <<< h) - 1#w)).toNat = a.toNat % 2 ^ h := by
  rw [BitVec.toNat_and, toNat_mask h hh, Nat.and_two_pow_sub_one_eq_mod]

theorem toNat_highHalf (h : Nat) (a : BitVec w) : (a >>> h).toNat = a.toNat / 2 ^ h := by
  rw [BitVec.toNat_ushiftRight, Nat.shiftRight_eq_div_pow]

theorem toNat_mul_of_halves {h : Nat} (hw : w = 2 * h) (x y : BitVec w) (hx : x.toNat < 2 ^ h)
    (hy : y.toNat < 2 ^ h) : (x * y).toNat = x.toNat * y.toNat := by
  rw [BitVec.toNat_mul, Nat.mod_eq_of_lt]
  rw [two_pow_eq_sq_half hw]
  exact Nat.mul_lt_mul'' hx hy

theorem toNat_shl_half {h : Nat} (hw : w = 2 * h) (p : BitVec w) :
    (p <<< h).toNat = (p.toNat % 2 ^ h) * 2 ^ h := by
  rw [BitVec.toNat_shiftLeft, Nat.shiftLeft_eq, two_pow_eq_sq_half hw, Nat.mul_mod_mul_right]

/-- a sum of four words that stays below `2^w`: none of the three `+` wraps, each partial sum being at most the total -/
theorem toNat_add_add_add {a b c d : BitVec w} (h : a.toNat + b.toNat + c.toNat + d.toNat < 2 ^ w) :
    (a + b + c + d).toNat = a.toNat + b.toNat + c.toNat + d.toNat := by
  have h3 := Nat.lt_of_le_of_lt (Nat.le_add_right _ _) h
  rw [BitVec.toNat_add, BitVec.toNat_add, BitVec.toNat_add,
    Nat.mod_eq_of_lt (Nat.lt_of_le_of_lt (Nat.le_add_right _ _) h3), Nat.mod_eq_of_lt h3, Nat.mod_eq_of_lt h]

/-- `wmulSplit` once the four half words are named -/
def wmulHalves (h : Nat) (al ah bl bh : BitVec w) : BitVec w × BitVec w :=
  let c := cadd (al * bl) ((ah * bl) <<< h) ((al * bh) <<< h)
  (c.1, ah * bh + ((ah * bl) >>> h) + ((al * bh) >>> h) + c.2)

theorem wmulSplit_eq_halves (a b : BitVec w) :
    wmulSplit a b = wmulHalves (w / 2) (a &&& ((1#w <<< (w / 2)) - 1#w)) (a >>> (w / 2))
      (b &&& ((1#w <<< (w / 2)) - 1#w)) (b >>> (w / 2)) := rfl

/-- first conjunct: the non-wrapping sum of the high word does not overflow -/
theorem wmulHalves_spec {h : Nat} (hw : w = 2 * h) (hh : 0 < h) (al ah bl bh : BitVec w)
    (hal : al.toNat < 2 ^ h) (hah : ah.toNat < 2 ^ h) (hbl : bl.toNat < 2 ^ h) (hbh : bh.toNat < 2 ^ h) :
    (ah * bh).toNat + ((ah * bl) >>> h).toNat + ((al * bh) >>> h).toNat
        + (cadd (al * bl) ((ah * bl) <<< h) ((al * bh) <<< h)).2.toNat < 2 ^ w ∧
      (wmulHalves h al ah bl bh).1.toNat + 2 ^ w * (wmulHalves h al ah bl bh).2.toNat
        = (2 ^ h * ah.toNat + al.toNat) * (2 ^ h * bh.toNat + bl.toNat) := by
  -- to numbers: products of half words do not wrap, `p << h` is `(p % H) * H` and `p >> h` is `p / H`, with `H = 2^h`
  have mul := toNat_mul_of_halves hw
  obtain ⟨k1, k2⟩ := mul_split_nat (q1 := ((ah * bl) >>> h).toNat) (q2 := ((al * bh) >>> h).toNat)
    (two_pow_eq_sq_half hw) hal hah hbl hbh (mul _ _ hal hbl) (mul _ _ hah hbh)
    (by rw [toNat_highHalf, mul _ _ hah hbl]) (by rw [toNat_highHalf, mul _ _ hal hbh])
    (by rw [toNat_shl_half hw, mul _ _ hah hbl]) (by rw [toNat_shl_half hw, mul _ _ hal hbh])
    (cadd_spec (hw ▸ Nat.mul_le_mul_left 2 hh) (al * bl) ((ah * bl) <<< h) ((al * bh) <<< h))
  -- back to words: the sum that makes the high word does not wrap, `k1` bounding it
  exact ⟨k1, (congrArg (_ + 2 ^ w * ·) (toNat_add_add_add k1)).trans k2⟩

/-- `u128::wmul` (half-word schoolbook) for any even width; first conjunct: the Rust non-wrapping sum
`p3 + (p1 >> h) + (p2 >> h) + c` does not overflow -/
theorem wmulSplit_spec {h : Nat} (hw : w = 2 * h) (hh : 0 < h) (a b : BitVec w) :
    ((a >>> h) * (b >>> h)).toNat
        + (((a >>> h) * (b &&& ((1#w <<< h) - 1#w))) >>> h).toNat
        + (((a &&& ((1#w <<< h) - 1#w)) * (b >>> h)) >>> h).toNat
        + (cadd ((a &&& ((1#w <<< h) - 1#w)) * (b &&& ((1#w <<< h) - 1#w)))
            (((a >>> h) * (b &&& ((1#w <<< h) - 1#w))) <<< h)
            (((a &&& ((1#w <<< h) - 1#w)) * (b >>> h)) <<< h)).2.toNat < 2 ^ w ∧
      (wmulSplit a b).1.toNat + 2 ^ w * (wmulSplit a b).2.toNat = a.toNat * b.toNat := by
  have hhw : h < w := by rw [hw, Nat.two_mul]; exact Nat.lt_add_of_pos_left hh
  -- a word is its two halves: `x = H · (x >> h) + (x & (H - 1))`, both below `H = 2^h`
  have lo : ∀ x : BitVec w, (x &&& ((1#w <<< h) - 1#w)).toNat < 2 ^ h := fun x =>
    toNat_lowHalf hhw x ▸ Nat.mod_lt _ (Nat.two_pow_pos h)
  have hi : ∀ x : BitVec w, (x >>> h).toNat < 2 ^ h := fun x =>
    toNat_highHalf h x ▸ Nat.div_lt_of_lt_mul (two_pow_eq_sq_half hw ▸ x.isLt)
  have halves : ∀ x : BitVec w, 2 ^ h * (x >>> h).toNat + (x &&& ((1#w <<< h) - 1#w)).toNat = x.toNat := fun x => by
    rw [toNat_lowHalf hhw, toNat_highHalf, Nat.div_add_mod]
  obtain ⟨k1, k2⟩ := wmulHalves_spec hw hh _ _ _ _ (lo a) (hi a) (lo b) (hi b)
  rw [halves a, halves b] at k2
  obtain rfl : h = w / 2 := by rw [hw, Nat.mul_div_cancel_left h (by decide)]
  exact ⟨k1, wmulSplit_eq_halves a b ▸ k2⟩

theorem wmul_spec (a b : BitVec w) :
    (wmul a b).1.toNat + 2 ^ w * (wmul a b).2.toNat = a.toNat * b.toNat := by
  unfold wmul
  split
  · rename_i h
    exact (wmulSplit_spec (h := 64) h (by decide) a b).2
  · exact wmulWide_spec a b

/-- what the row loop needs from the word multiplication (it holds at every width: `wmul_ok`) -/
def WmulOk (w : Nat) : Prop :=
  ∀ a b : BitVec w, (wmul a b).1.toNat + 2 ^ w * (wmul a b).2.toNat = a.toNat * b.toNat

theorem wmul_ok : WmulOk w := fun a b => wmul_spec a b

/-- the inner step at word level; first conjunct: the Rust `cadd(..) + product.1` (non-wrapping `+`) cannot overflow -/
theorem mul_step_word (hw : 2 ≤ w) (hm : WmulOk w) (x y res carry : BitVec w) :
    (cadd res (wmul x y).1 carry).2.toNat + (wmul x y).2.toNat < 2 ^ w ∧
    (cadd res (wmul x y).1 carry).1.toNat
        + 2 ^ w * ((cadd res (wmul x y).1 carry).2 + (wmul x y).2).toNat
      = res.toNat + x.toNat * y.toNat + carry.toNat := by
  have h1 := hm x y
  have h2 := cadd_spec hw res (wmul x y).1 carry
  obtain ⟨k1, k2⟩ := mul_step_nat x.isLt y.isLt res.isLt carry.isLt h1.symm h2.symm
  refine ⟨k1, ?_⟩
  rw [BitVec.toNat_add, Nat.mod_eq_of_lt k1]
  exact k2

/-- body of the inner loop of `mulRows` (row `i`, column `j`) -/
def mul_rowStep (a : BitVec w) (fetch : Nat → BitVec w) (i j : Nat)
    (p : Array (BitVec w) × BitVec w) : Array (BitVec w) × BitVec w :=
  let product := wmul a (fetch j)
  let r := cadd (wd p.1 (i + j)) product.1 p.2
  (p.1.setIfInBounds (i + j) r.1, r.2 + product.2)

/-- row `i` of `mulRows` -/
def mul_row (ws : Array (BitVec w)) (fetch : Nat → BitVec w) (len i : Nat) (res : Array (BitVec w)) :
    Array (BitVec w) × BitVec w :=
  forRange 0 (len - i) (mul_rowStep (wd ws i) fetch i) (res, 0#w)

theorem mulRows_eq_rows (ws : Array (BitVec w)) (fetch : Nat → BitVec w) (len : Nat)
    (res : Array (BitVec w)) :
    Bvf.mulRows ws fetch len res = forRange 0 len (fun i res => (mul_row ws fetch len i res).1) res :=
  rfl

theorem mul_row_digit (P Q a F x : Nat) : P * (a * F) + P * Q * (a * x) = P * (a * (F + Q * x)) := by
  rw [Nat.mul_add, Nat.mul_add, Nat.mul_left_comm a Q x, Nat.mul_assoc P Q]

theorem mul_row_spec (hw : 2 ≤ w) (ws : Array (BitVec w)) (f : Nat → BitVec w)
    (len i : Nat) (res : Array (BitVec w)) (hi : i ≤ len) (hlen : len ≤ res.size) :
    ChainInv false res (2 ^ (w * i) * ((wd ws i).toNat * valF f (len - i))) 0 len
      (mul_row ws f len i res) := by
  have key := forRange_inv
    (fun j => ChainInv false res (2 ^ (w * i) * ((wd ws i).toNat * valF f j)) 0 (i + j))
    (mul_rowStep (wd ws i) f i) 0 (len - i) (Nat.zero_le _)
    (fun j p _ h2 hP => by
      have := hP.step (Nat.lt_of_lt_of_le (Nat.add_lt_of_lt_sub' h2) hlen)
        (mul_step_word hw wmul_ok (wd ws i) (f j) (wd p.1 (i + j)) p.2).2
      rwa [Nat.mul_add w, Nat.pow_add, mul_row_digit] at this)
    (res, 0#w) ⟨rfl, fun _ _ => rfl, by simp [CarryEq, valF]⟩
  rwa [Nat.add_sub_cancel' hi] at key

/-- the outer step on numbers: modulo `M = P·Q`, adding `P·a·F'` is adding `P·a·(F' + Q·T)` -/
theorem mul_outer_arith {M P Q R R' c A a F' T : Nat} (hM : M = P * Q)
    (hrow : R' + M * c = R + P * (a * F')) (ih : R % M = (A * (F' + Q * T)) % M) :
    R' % M = ((A + P * a) * (F' + Q * T)) % M := by
  have e : (A + P * a) * (F' + Q * T) = A * (F' + Q * T) + P * (a * F') + M * (a * T) := by
    rw [Nat.add_mul, Nat.mul_add (P * a), Nat.mul_mul_mul_comm P a Q T, Nat.mul_assoc P a F', hM,
      Nat.add_assoc]
  rw [e, Nat.add_mul_mod_self_left, Nat.add_mod, ← ih, ← Nat.add_mod, ← hrow, Nat.add_mul_mod_self_left]

/-- invariant of the outer loop after `i` rows: size kept, the words from `len` on untouched, and the low `len` words
hold (first `i` words of `ws`) · `f`, modulo `2^(w·len)` -/
def mul_OuterInv (ws res0 : Array (BitVec w)) (f : Nat → BitVec w) (len i : Nat)
    (res : Array (BitVec w)) : Prop :=
  res.size = res0.size ∧ (∀ t, len ≤ t → wd res t = wd res0 t) ∧
    valUpTo res len % 2 ^ (w * len) = (valUpTo ws i * valF f len) % 2 ^ (w * len)

theorem mul_OuterInv_step (hw : 2 ≤ w) (ws res0 : Array (BitVec w)) (f : Nat → BitVec w)
    (len i : Nat) (res : Array (BitVec w)) (hlen : len ≤ res0.size) (hi : i < len)
    (h : mul_OuterInv ws res0 f len i res) :
    mul_OuterInv ws res0 f len (i + 1) (mul_row ws f len i res).1 := by
  obtain ⟨h1, h2, h3⟩ := h
  have hi' := Nat.le_of_lt hi
  obtain ⟨r1, r2, r3⟩ := mul_row_spec hw ws f len i res hi' (h1 ▸ hlen)
  refine ⟨r1.trans h1, fun t ht => (r2 t ht).trans (h2 t ht), ?_⟩
  have eF := valF_add f (len - i) i
  rw [Nat.sub_add_cancel hi'] at eF
  -- `eM : 2^(w·len) = 2^(w·i) · 2^(w·(len - i))`
  have eM := Nat.pow_add 2 (w * i) (w * (len - i))
  rw [← Nat.mul_add, Nat.add_sub_cancel' hi'] at eM
  rw [eF] at h3 ⊢
  exact mul_outer_arith eM r3 h3

theorem Bvf.mulRows_value (hw : 2 ≤ w) (ws : Array (BitVec w)) (fetch : Nat → BitVec w)
    (len : Nat) (res : Array (BitVec w)) (hlen : len ≤ res.size)
    (hz : ∀ t, t < len → wd res t = 0#w) :
    valUpTo (Bvf.mulRows ws fetch len res) len
        = (valUpTo ws len * valF fetch len) % 2 ^ (w * len) ∧
      (Bvf.mulRows ws fetch len res).size = res.size ∧
      ∀ t, len ≤ t → wd (Bvf.mulRows ws fetch len res) t = wd res t := by
  rw [mulRows_eq_rows]
  obtain ⟨k1, k2, k3⟩ := forRange_inv (fun i r => mul_OuterInv ws res fetch len i r)
    (fun i res => (mul_row ws fetch len i res).1) 0 len (Nat.zero_le _)
    (fun n s _ h2 hP => mul_OuterInv_step hw ws res fetch len n s hlen h2 hP)
    res ⟨rfl, fun _ _ => rfl, by rw [← valF_wd, valF_zero _ _ hz]; simp [valUpTo]⟩
  refine ⟨?_, k1, k2⟩
  rw [← k3]
  exact (Nat.mod_eq_of_lt (valUpTo_lt _ _)).symm

theorem size_mulRows (ws : Array (BitVec w)) (fetch : Nat → BitVec w) (len : Nat) (res : Array (BitVec w)) :
    (Bvf.mulRows ws fetch len res).size = res.size := by
  have row : ∀ i (r : Array (BitVec w)), r.size = res.size → (mul_row ws fetch len i r).1.size = res.size := fun i r hr =>
    forRange_inv (fun _ (p : Array (BitVec w) × BitVec w) => p.1.size = res.size) (mul_rowStep (wd ws i) fetch i) 0 _
      (Nat.zero_le _) (fun _ _ _ _ hp => (Array.size_setIfInBounds ..).trans hp) (r, 0#w) hr
  rw [mulRows_eq_rows]
  exact forRange_inv (fun _ (r : Array (BitVec w)) => r.size = res.size) _ 0 _ (Nat.zero_le _)
    (fun i r _ _ => row i r) _ rfl

theorem mul_mod_mod_of_dvd (A x M L : Nat) (hd : L ∣ M) : (A * (x % M)) % M % L = (A * x) % L := by
  rw [Nat.mod_mod_of_dvd _ hd, Nat.mul_mod, Nat.mod_mod_of_dvd _ hd, ← Nat.mul_mod]

/-- What `Bvf::mul` and `Bvd::mul` share: the rows over the used words of `s`, into `N` zero words, cut back to
`length` bits by `m` (`mod2n`, or the last-word mask), are the product modulo `2^length`. -/
theorem mulRows_refines (hw : 2 ≤ w) {s : Raw w} (h : s.Inv) (fetch : Nat → BitVec w) (X N : Nat)
    (hf : ∀ n, valF fetch n = X % 2 ^ (w * n)) (hN : capFromBitLen w s.length ≤ N)
    {m : Array (BitVec w)} (hsz : m.size = N)
    (hm : ∀ i, bitAt m i = (bitAt (Bvf.mulRows s.data fetch (capFromBitLen w s.length)
      (Array.replicate N 0#w)) i && decide (i < s.length))) :
    (⟨m, s.length⟩ : Raw w).Inv ∧ (⟨m, s.length⟩ : Raw w).abs = ⟨s.length, (s.abs.val * X) % 2 ^ s.length⟩ := by
  have hw0 : 0 < w := Nat.zero_lt_of_lt hw
  have hcap := le_mul_cap s.length hw0
  have c1 := (Bvf.mulRows_value hw s.data fetch (capFromBitLen w s.length) (Array.replicate N 0#w)
    (by rw [Array.size_replicate]; exact hN) (fun t _ => by rw [wd_replicate, ite_self])).1
  obtain ⟨m1, m2⟩ := Raw.refines_mod_of_bits hw0 s.length
    (hsz ▸ Nat.le_trans (le_cap_mul s.length hw0) (Nat.mul_le_mul_right w hN)) hm
  refine ⟨m1, m2.trans (congrArg (BV.mk s.length) ?_)⟩
  rw [← Nat.mod_mod_of_dvd (valAll _) (Nat.pow_dvd_pow 2 hcap), ← valUpTo_eq_mod hw0, c1,
    h.valUpTo_eq hw0 _ hcap, hf]
  exact mul_mod_mod_of_dvd _ _ _ _ (Nat.pow_dvd_pow 2 hcap)

/-- `Bvf.mul_refines` and `Bvd.mul_refines` below restate this theorem and the next.  The `match` written in these statements
is compiled to an auxiliary matcher named after the first theorem that writes it (`Bvf.mul_refines_of.match_1`), and the
restatements mention that matcher: the order of the two theorems of a pair is part of what they say. -/
theorem Bvf.mul_refines_of (s : Raw w) (x : AnyBv) (hw : 2 ≤ w) (h : s.Inv)
    (hf : ∀ n, valF (fun j => match x with
        | .f _ r => (r.getInt w j).getD 0#w
        | .d r => (r.getInt w j).getD 0#w) n = x.abs.val % 2 ^ (w * n)) :
    (Bvf.mul s x).Inv ∧ (Bvf.mul s x).abs = s.abs.mul x.abs :=
  mulRows_refines hw h _ _ s.data.size hf (h.cap_le_size (Nat.zero_lt_of_lt hw))
    ((size_mod2n ..).trans ((size_mulRows ..).trans (Array.size_replicate ..)))
    (fun i => bitAt_mod2n _ s.length i (Nat.zero_lt_of_lt hw))

theorem Bvd.mul_refines_of (s : Raw 64) (x : AnyBv) (h : s.Inv)
    (hf : ∀ n, valF (match x with
        | .d r => fun j => wd r.data j
        | .f _ r => fun j => (r.getInt 64 j).getD 0#64) n = x.abs.val % 2 ^ (64 * n)) :
    (Bvd.mul s x).Inv ∧ (Bvd.mul s x).abs = s.abs.mul x.abs ∧
      (Bvd.mul s x).data.size = Bvd.capW s.length := by
  have hR (fetch) := (size_mulRows s.data fetch (Bvd.capW s.length) (Array.replicate (Bvd.capW s.length) 0#64)).trans
    (Array.size_replicate ..)
  have hsz (fetch) := (size_maskAt _ s.length).trans (hR fetch)
  unfold Bvd.mul
  -- the projections of the result record are reduced first: the unifier, left to it, unfolds `maskAt` instead
  dsimp only
  have r := mulRows_refines (by decide) h _ _ _ hf (Nat.le_refl _) (hsz _)
    (fun i => bitAt_maskAt_of_used _ s.length i (by decide) fun k hk => wd_oob _ k (Nat.le_trans (Nat.le_of_eq (hR _)) hk))
  exact ⟨r.1, r.2, hsz _⟩

theorem Bvf.mul_refines (s : Raw w) (x : AnyBv) (hw : 2 ≤ w) (h : s.Inv)
    (hf : ∀ n, valF (fun j => match x with
        | .f _ r => (r.getInt w j).getD 0#w
        | .d r => (r.getInt w j).getD 0#w) n = x.abs.val % 2 ^ (w * n)) :
    (Bvf.mul s x).Inv ∧ (Bvf.mul s x).abs = s.abs.mul x.abs :=
  Bvf.mul_refines_of s x hw h hf

theorem Bvd.mul_refines (s : Raw 64) (x : AnyBv) (h : s.Inv)
    (hf : ∀ n, valF (match x with
        | .d r => fun j => wd r.data j
        | .f _ r => fun j => (r.getInt 64 j).getD 0#64) n = x.abs.val % 2 ^ (64 * n)) :
    (Bvd.mul s x).Inv ∧ (Bvd.mul s x).abs = s.abs.mul x.abs ∧
      (Bvd.mul s x).data.size = Bvd.capW s.length :=
  Bvd.mul_refines_of s x h hf

theorem Bvf.mul_size (s : Raw w) (x : AnyBv) : (Bvf.mul s x).data.size = s.data.size := by
  unfold Bvf.mul
  dsimp only
  exact (size_mod2n ..).trans ((size_mulRows ..).trans (Array.size_replicate ..))

end Bva
