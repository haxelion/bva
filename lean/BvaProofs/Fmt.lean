import BvaProofs.L0Numeral
import BvaProofs.Rechunk
/-!
The digit strings `binDigits`, `hexDigits`, `octDigits` are `BV.numeral` in base 2, 16, 8.
-/
namespace Bva
variable {w : Nat}

theorem Raw.get_eq_testBit (s : Raw w) (hw : 0 < w) (i : Nat) : s.get i = s.abs.val.testBit i := by
  rw [Raw.get_eq_bitAt, ← Raw.abs_bit s i hw]; rfl

theorem Raw.binDigits_skip_eq (s : Raw w) (n : Nat) :
    Raw.binDigits.skip s n = fmt_skip (fun j => s.get j) n := by
  induction n with
  | zero => rfl
  | succ n ih =>
    unfold Raw.binDigits.skip fmt_skip
    rw [ih]
    by_cases h : s.get n <;> simp [h]

theorem Raw.binDigits_eq (s : Raw w) (hw : 0 < w) (h : s.Inv) :
    s.binDigits = BV.numeral 2 false s.abs.val := by
  have hget : ∀ j, s.get j = (s.abs.val / 2 ^ j % 2 != 0) := fun j => by
    rw [Raw.get_eq_testBit s hw, testBit_eq_digit]
  unfold Raw.binDigits
  simp only [Raw.binDigits_skip_eq, hget, binChar_eq_digitChar]
  exact fmt_digs_skip_eq_numeral 2 false (Nat.le_refl 2) _ _ (h.wf hw)

theorem lt_pow_digits {v len : Nat} (hv : v < 2 ^ len) (k : Nat) (hk : 0 < k) :
    v < (2 ^ k) ^ capFromBitLen k len := by
  rw [← Nat.pow_mul]
  exact lt_two_pow_of_le hv (le_mul_cap len hk)

theorem Raw.nibble_eq (s : Raw w) (hw : 0 < w) (h4 : 4 ∣ w) (i : Nat) :
    s.nibble i = s.abs.val / 16 ^ i % 16 := by
  obtain ⟨q, rfl⟩ := h4
  unfold Raw.nibble
  rw [Nat.mul_div_cancel_left q (by decide : 0 < 4), show (16 : Nat) = 2 ^ 4 from rfl, ← Nat.pow_mul,
    ← Nat.shiftRight_eq_div_pow]
  refine toNat_window hw _ s.data (4 * i) (fun j => ?_)
  -- the mask `0xf` keeps the bits `j < 4`, where the shifted word shows bit `4 * i + j` of the storage
  rw [BitVec.getLsbD_and, BitVec.getLsbD_setWidth, show (0xf#8 : BitVec 8) = BitVec.ofNat 8 (2 ^ 4 - 1) from rfl,
    BitVec.getLsbD_ofNat, Nat.testBit_two_pow_sub_one]
  by_cases hj : j < 4
  · rw [getLsbD_subword (Nat.pos_of_mul_pos_left hw) _ _ _ hj, decide_eq_true hj,
      decide_eq_true (Nat.lt_trans hj (by decide : 4 < 8)), Bool.true_and, Bool.and_true, Bool.and_true]
  · rw [decide_eq_false hj, Bool.and_false, Bool.and_false, Bool.false_and]

theorem Raw.hexDigits_skip_eq (s : Raw w) (n : Nat) :
    Raw.hexDigits.skip s n = fmt_skip (fun j => s.nibble j != 0) n := by
  induction n with
  | zero => rfl
  | succ n ih =>
    unfold Raw.hexDigits.skip fmt_skip
    rw [ih]
    by_cases h : s.nibble n = 0 <;> simp [h]

theorem Raw.hexDigits_eq (s : Raw w) (hw : 0 < w) (h4 : 4 ∣ w) (h : s.Inv) (upper : Bool) :
    s.hexDigits upper = BV.numeral 16 upper s.abs.val := by
  have hlt : s.abs.val < 16 ^ ((s.length + 3) / 4) := lt_pow_digits (h.wf hw) 4 (by decide)
  unfold Raw.hexDigits
  simp only [Raw.hexDigits_skip_eq, Raw.nibble_eq s hw h4]
  exact fmt_digs_skip_eq_numeral 16 upper (by decide) _ _ hlt

theorem Raw.octBit_eq (s : Raw w) (hw : 0 < w) (h : s.Inv) (i : Nat) :
    (if i < s.length then (s.get i).toNat else 0) = (s.abs.val.testBit i).toNat := by
  rw [← Raw.get_eq_testBit s hw]
  by_cases hi : i < s.length
  · rw [if_pos hi]
  · rw [if_neg hi, Raw.get_eq_bitAt, h.2 i (Nat.le_of_not_lt hi)]; rfl

theorem Raw.octDigits_eq (s : Raw w) (hw : 0 < w) (h : s.Inv) :
    s.octDigits = BV.numeral 8 false s.abs.val := by
  unfold Raw.octDigits
  -- the digit the iterator assembles from three bits is digit `t` of the value in base 8
  simp only [Raw.octBit_eq s hw h, octDigit_eq]
  exact fmt_take_lastNz_eq_numeral 8 false (by decide) _ _ (lt_pow_digits (h.wf hw) 3 (by decide))

end Bva
