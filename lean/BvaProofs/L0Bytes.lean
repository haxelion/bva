import BvaProofs.L0
/-!
# Bytes of the specification: `natBytesLE` / `natOfBytesLE` are inverse, `toVec` has `⌈len / 8⌉` bytes below 256,
and `fromBytes (toVec a)` is `a` zero-extended to whole bytes.
-/
namespace Bva

theorem BV.length_natBytesLE (v k : Nat) : (BV.natBytesLE v k).length = k := by
  induction k generalizing v with
  | zero => rfl
  | succ k ih => rw [BV.natBytesLE, List.length_cons, ih]

theorem BV.natBytesLE_lt (v k : Nat) : ∀ b ∈ BV.natBytesLE v k, b < 256 := by
  induction k generalizing v with
  | zero => intro b hb; cases hb
  | succ k ih =>
    intro b hb
    rcases List.mem_cons.mp hb with rfl | hb
    · exact Nat.mod_lt _ (by decide)
    · exact ih _ b hb

theorem BV.natBytesLE_eq_map (v k : Nat) :
    BV.natBytesLE v k = (List.range k).map fun i => (v >>> (8 * i)) % 256 := by
  induction k generalizing v with
  | zero => rfl
  | succ k ih =>
    rw [BV.natBytesLE, ih, List.range_succ_eq_map, List.map_cons, List.map_map]
    congr 1
    apply List.map_congr_left
    intro i _
    simp only [Function.comp]
    rw [Nat.mul_succ, Nat.add_comm (8 * i) 8, Nat.shiftRight_add, Nat.shiftRight_eq_div_pow v 8]

theorem BV.natOfBytesLE_natBytesLE (v k : Nat) :
    BV.natOfBytesLE (BV.natBytesLE v k) = v % 256 ^ k := by
  induction k generalizing v with
  | zero => rw [Nat.pow_zero, Nat.mod_one]; rfl
  | succ k ih =>
    rw [BV.natBytesLE, BV.natOfBytesLE, ih, Nat.pow_succ, Nat.mul_comm (256 ^ k) 256, Nat.mod_mul]

theorem BV.natOfBytesLE_lt (l : List Nat) (h : ∀ b ∈ l, b < 256) : BV.natOfBytesLE l < 2 ^ (8 * l.length) := by
  induction l with
  | nil => exact Nat.one_pos
  | cons b bs ih =>
    rw [List.length_cons, Nat.mul_succ, Nat.pow_add, Nat.mul_comm (2 ^ _)]
    exact add_mul_lt_mul (h b (List.mem_cons_self ..)) (ih fun c hc => h c (List.mem_cons_of_mem _ hc))

theorem BV.length_toVec (a : BV) (big : Bool) : (a.toVec big).length = (a.len + 7) / 8 := by
  cases big
  · exact BV.length_natBytesLE _ _
  · exact List.length_reverse.trans (BV.length_natBytesLE _ _)

theorem BV.toVec_lt (a : BV) (big : Bool) : ∀ b ∈ a.toVec big, b < 256 := by
  cases big
  · exact BV.natBytesLE_lt _ _
  · exact fun b hb => BV.natBytesLE_lt _ _ b (List.mem_reverse.mp hb)

/-- whole bytes hold at least the bits they are counted for -/
theorem le_mul_bytes (n : Nat) : n ≤ 8 * ((n + 7) / 8) := by omega

theorem BV.fromBytes_toVec (a : BV) (h : a.WF) (big : Bool) :
    BV.fromBytes (a.toVec big) big = ⟨8 * ((a.len + 7) / 8), a.val⟩ := by
  have hv : BV.natOfBytesLE (BV.natBytesLE a.val ((a.len + 7) / 8)) = a.val := by
    rw [BV.natOfBytesLE_natBytesLE, show (256 : Nat) = 2 ^ 8 from rfl, ← Nat.pow_mul]
    exact Nat.mod_eq_of_lt (lt_two_pow_of_le h (le_mul_bytes a.len))
  rw [BV.fromBytes, BV.length_toVec]
  -- with `big` known, `toVec` and the `if` of `fromBytes` evaluate
  cases big
  · exact congrArg _ hv
  · exact congrArg _ ((congrArg _ (List.reverse_reverse _)).trans hv)

theorem BV.fromBytes_toVec_val (a : BV) (h : a.WF) (big : Bool) :
    (BV.fromBytes (a.toVec big) big).val % 2 ^ a.len = a.val := by
  rw [BV.fromBytes_toVec a h big]
  exact Nat.mod_eq_of_lt h

end Bva
