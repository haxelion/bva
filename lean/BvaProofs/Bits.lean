import BvaProofs.Words
/-!
# Bits of word arrays: masks, a field inside a word, the chunk read / write / or of the shifts and rotations with the
lengths that keep a chunk inside a word (`fit_up`, `fit_down`), ranges of bits joined
-/
namespace Bva
variable {w : Nat}

theorem wd_eq (ws : Array (BitVec w)) (i : Nat) : wd ws i = ws.getD i 0#w := rfl

/-- `bitAt_setIfInBounds` with the word of bit `i` given by bounds, so that no `/` or `%` is left to reason about -/
theorem bitAt_setWord (hw : 0 < w) (ws : Array (BitVec w)) (k : Nat) (x : BitVec w) (i : Nat) :
    bitAt (ws.setIfInBounds k x) i =
      if (k * w ≤ i ∧ i < k * w + w) ∧ k < ws.size then x.getLsbD (i - k * w) else bitAt ws i := by
  rw [bitAt_setIfInBounds, Nat.mod_eq_sub_div_mul]
  by_cases h : i / w = k
  · subst h
    by_cases hs : i / w < ws.size
    · rw [if_pos ⟨rfl, hs⟩, if_pos ⟨⟨Nat.div_mul_le_self i w, Nat.lt_div_mul_add hw⟩, hs⟩]
    · rw [if_neg fun c => hs c.2, if_neg fun c => hs c.2]
  · rw [if_neg fun c => h c.1,
      if_neg fun c => h (Nat.div_eq_of_lt_le c.1.1 (by rw [Nat.succ_mul]; exact c.1.2))]

/-- A word loop with a target: the array agrees with the target `G` on the part `D` that is done and with `d0`
elsewhere.  Writing word `k` so that this holds of its bits too, with `D'` for `D`, and `D'` is `D` outside that
word, gives the same description with `D'`. -/
theorem bitAt_setWord_of (hw : 0 < w) {A d0 : Array (BitVec w)} {G : Nat → Bool} {D D' : Nat → Prop}
    [DecidablePred D] [DecidablePred D'] {k : Nat} {y : BitVec w} (hk : k < A.size)
    (hA : ∀ j, bitAt A j = if D j then G j else bitAt d0 j)
    (hy : ∀ m, m < w → y.getLsbD m = if D' (k * w + m) then G (k * w + m) else bitAt d0 (k * w + m))
    (hD : ∀ j, ¬ (k * w ≤ j ∧ j < k * w + w) → (D' j ↔ D j)) (j : Nat) :
    bitAt (A.setIfInBounds k y) j = if D' j then G j else bitAt d0 j := by
  rw [bitAt_setWord hw]
  by_cases hj : k * w ≤ j ∧ j < k * w + w
  · obtain ⟨m, rfl⟩ := Nat.exists_eq_add_of_le hj.1
    rw [if_pos ⟨hj, hk⟩, Nat.add_sub_cancel_left, hy m (Nat.lt_of_add_lt_add_left hj.2)]
  · rw [if_neg fun c => hj c.1, hA]
    exact ite_congr (propext (hD j hj).symm) (fun _ => rfl) fun _ => rfl

theorem toNat_mask (l : Nat) (h : l < w) : ((1#w <<< l) - 1#w).toNat = 2 ^ l - 1 := by
  have h1 : (1#w).toNat = 1 := Nat.mod_eq_of_lt (Nat.one_lt_two_pow (Nat.ne_of_gt (Nat.zero_lt_of_lt h)))
  have h2 : (1#w <<< l).toNat = 2 ^ l := by
    rw [BitVec.toNat_shiftLeft, h1, Nat.shiftLeft_eq, Nat.one_mul,
      Nat.mod_eq_of_lt (Nat.pow_lt_pow_right Nat.one_lt_two h)]
  rw [BitVec.toNat_sub_of_le (by rw [BitVec.le_def, h1, h2]; exact Nat.two_pow_pos l), h1, h2]

theorem getLsbD_mask (l i : Nat) : (mask w l).getLsbD i = (decide (i < w) && decide (i < l)) := by
  unfold mask
  split
  · rename_i h
    rw [BitVec.getLsbD, toNat_mask l h, Nat.testBit_two_pow_sub_one]
    by_cases hi : i < l
    · rw [decide_eq_true hi, decide_eq_true (Nat.lt_trans hi h)]; rfl
    · rw [decide_eq_false hi, Bool.and_false]
  · rename_i h
    rw [BitVec.getLsbD_allOnes]
    by_cases hi : i < w
    · rw [decide_eq_true hi, decide_eq_true (Nat.lt_of_lt_of_le hi (Nat.not_lt.mp h))]; rfl
    · rw [decide_eq_false hi]; rfl

theorem mask_full (x : BitVec w) : x &&& mask w w = x := by
  unfold mask; simp

theorem getLsbD_shiftLeft_of_lt (d : BitVec w) (o m : Nat) (hm : m < w) :
    (d <<< o).getLsbD m = (decide (o ≤ m) && d.getLsbD (m - o)) := by
  rw [BitVec.getLsbD_shiftLeft, decide_eq_true hm, Bool.true_and, ← decide_not]
  congr 1; rw [decide_eq_decide, Nat.not_lt]

theorem getLsbD_orField (x d : BitVec w) (o m : Nat) (hm : m < w) :
    (x ||| (d <<< o)).getLsbD m = (x.getLsbD m || (decide (o ≤ m) && d.getLsbD (m - o))) := by
  rw [BitVec.getLsbD_or, getLsbD_shiftLeft_of_lt _ _ _ hm]

theorem getLsbD_putField (x d : BitVec w) (o l m : Nat) (hm : m < w)
    (hd : ∀ j, l ≤ j → d.getLsbD j = false) :
    ((x &&& ~~~ (mask w l <<< o)) ||| (d <<< o)).getLsbD m =
      if o ≤ m ∧ m < o + l then d.getLsbD (m - o) else x.getLsbD m := by
  rw [getLsbD_orField _ _ _ _ hm, BitVec.getLsbD_and, BitVec.getLsbD_not, decide_eq_true hm, Bool.true_and,
    getLsbD_shiftLeft_of_lt _ _ _ hm, getLsbD_mask]
  by_cases h1 : o ≤ m
  · rw [decide_eq_true h1, Bool.true_and, Bool.true_and]
    by_cases h2 : m - o < l
    · rw [if_pos ⟨h1, (Nat.sub_lt_iff_lt_add' h1).mp h2⟩, decide_eq_true h2,
        decide_eq_true (Nat.lt_of_le_of_lt (Nat.sub_le m o) hm), Bool.and_self, Bool.not_true, Bool.and_false,
        Bool.false_or]
    · rw [if_neg fun c => h2 (Nat.sub_lt_left_of_lt_add c.1 c.2), decide_eq_false h2, Bool.and_false, Bool.not_false,
        Bool.and_true, hd _ (Nat.not_lt.mp h2), Bool.or_false]
  · rw [if_neg fun c => h1 c.1, decide_eq_false h1, Bool.false_and, Bool.false_and, Bool.not_false, Bool.and_true,
      Bool.or_false]

@[simp] theorem size_writeBits (ws : Array (BitVec w)) (pos l : Nat) (d : BitVec w) :
    (writeBits ws pos l d).size = ws.size := Array.size_setIfInBounds ..

@[simp] theorem size_clearBits (ws : Array (BitVec w)) (pos l : Nat) :
    (clearBits ws pos l).size = ws.size := Array.size_setIfInBounds ..

@[simp] theorem size_orBits (ws : Array (BitVec w)) (pos : Nat) (d : BitVec w) :
    (orBits ws pos d).size = ws.size := Array.size_setIfInBounds ..

theorem readBits_high (ws : Array (BitVec w)) (pos l j : Nat) (h : l ≤ j) :
    (readBits ws pos l).getLsbD j = false := by
  rw [readBits, BitVec.getLsbD_and, getLsbD_mask, decide_eq_false (Nat.not_lt.mpr h), Bool.and_false,
    Bool.and_false]

theorem getLsbD_readBits (ws : Array (BitVec w)) (pos l j : Nat) (hfit : pos % w + l ≤ w) :
    (readBits ws pos l).getLsbD j = (decide (j < l) && bitAt ws (pos + j)) := by
  by_cases hj : j < l
  · have hjw : pos % w + j < w := Nat.lt_of_lt_of_le (Nat.add_lt_add_left hj _) hfit
    rw [readBits, BitVec.getLsbD_and, BitVec.getLsbD_ushiftRight, getLsbD_mask, getLsbD_wd _ _ _ hjw, ← Nat.add_assoc,
      Nat.div_add_mod', decide_eq_true hj, decide_eq_true (Nat.lt_of_le_of_lt (Nat.le_add_left ..) hjw),
      Bool.and_true, Bool.and_true, Bool.true_and]
  · rw [readBits_high _ _ _ _ (Nat.not_lt.mp hj), decide_eq_false hj, Bool.false_and]

/-- Word `pos / w` is replaced by `y`, which differs from it on the chunk `[pos, pos + l)` only, by `φ` there
(`pos % w + l ≤ w`: the chunk stays inside the word).  All of `writeBits`, `clearBits`, `orBits`. -/
theorem bitAt_setChunk (hw : 0 < w) (ws : Array (BitVec w)) (pos l i : Nat) (y : BitVec w)
    (φ : Nat → Bool → Bool) (hfit : pos % w + l ≤ w) (hin : pos < ws.size * w)
    (hy : ∀ m, m < w → y.getLsbD m =
      if pos % w ≤ m ∧ m < pos % w + l then φ (m - pos % w) ((wd ws (pos / w)).getLsbD m)
      else (wd ws (pos / w)).getLsbD m) :
    bitAt (ws.setIfInBounds (pos / w) y) i =
      if pos ≤ i ∧ i < pos + l then φ (i - pos) (bitAt ws i) else bitAt ws i := by
  have e := Nat.div_add_mod' pos w
  have hk := div_lt_of_lt_mul pos ws.size hw hin
  rw [bitAt_setWord hw]
  generalize pos / w = k at *
  generalize pos % w = o at *
  subst e
  by_cases hi : k * w ≤ i ∧ i < k * w + w
  · obtain ⟨m, rfl⟩ := Nat.exists_eq_add_of_le hi.1
    have hm : m < w := Nat.lt_of_add_lt_add_left hi.2
    rw [if_pos ⟨hi, hk⟩, Nat.add_sub_cancel_left, hy m hm, getLsbD_wd _ _ _ hm, Nat.add_assoc]
    simp only [Nat.add_le_add_iff_left, Nat.add_lt_add_iff_left, Nat.add_sub_add_left]
  · -- the chunk lies inside word `k`
    rw [if_neg fun c => hi c.1, if_neg fun c => hi ⟨Nat.le_trans (Nat.le_add_right ..) c.1,
      Nat.lt_of_lt_of_le c.2 (Nat.add_assoc .. ▸ Nat.add_le_add_left hfit _)⟩]

theorem bitAt_writeBits (ws : Array (BitVec w)) (pos l i : Nat) (d : BitVec w) (hw : 0 < w)
    (hfit : pos % w + l ≤ w) (hin : pos < ws.size * w)
    (hd : ∀ j, l ≤ j → d.getLsbD j = false) :
    bitAt (writeBits ws pos l d) i =
      if pos ≤ i ∧ i < pos + l then d.getLsbD (i - pos) else bitAt ws i :=
  bitAt_setChunk hw ws pos l i _ (fun t _ => d.getLsbD t) hfit hin
    fun _ hm => getLsbD_putField _ _ _ _ _ hm hd

theorem bitAt_clearBits (ws : Array (BitVec w)) (pos l i : Nat) (hw : 0 < w)
    (hfit : pos % w + l ≤ w) (hin : pos < ws.size * w) :
    bitAt (clearBits ws pos l) i = (!decide (pos ≤ i ∧ i < pos + l) && bitAt ws i) := by
  have : clearBits ws pos l = writeBits ws pos l 0#w := by
    rw [clearBits, writeBits, BitVec.zero_shiftLeft, BitVec.or_zero]
  rw [this, bitAt_writeBits ws pos l i _ hw hfit hin fun _ _ => BitVec.getLsbD_zero, BitVec.getLsbD_zero,
    Bool.if_false_left]

theorem bitAt_orBits (ws : Array (BitVec w)) (pos l i : Nat) (d : BitVec w) (hw : 0 < w)
    (hfit : pos % w + l ≤ w) (hin : pos < ws.size * w)
    (hd : ∀ j, l ≤ j → d.getLsbD j = false) :
    bitAt (orBits ws pos d) i =
      (bitAt ws i || (decide (pos ≤ i ∧ i < pos + l) && d.getLsbD (i - pos))) := by
  refine (bitAt_setChunk hw ws pos l i _ (fun t b => b || d.getLsbD t) hfit hin fun m hm => ?_).trans ?_
  · -- the new word: `d` is OR-ed in on the chunk and, being zero from `l` on, changes nothing above it
    rw [getLsbD_orField _ _ _ _ hm]
    by_cases h : pos % w ≤ m ∧ m < pos % w + l
    · rw [if_pos h, decide_eq_true h.1, Bool.true_and]
    · rw [if_neg h]
      by_cases h1 : pos % w ≤ m
      · rw [hd _ (Nat.le_sub_of_add_le' (Nat.not_lt.mp fun c => h ⟨h1, c⟩)), Bool.and_false, Bool.or_false]
      · rw [decide_eq_false h1, Bool.false_and, Bool.or_false]
  · by_cases h : pos ≤ i ∧ i < pos + l
    · rw [if_pos h, decide_eq_true h, Bool.true_and]
    · rw [if_neg h, decide_eq_false h, Bool.false_and, Bool.or_false]

/-- One step of the shift loops: copy `l` bits from `src` at `p` over `dst` at `q`, neither chunk crossing a word
boundary.  `σ` says where a target bit comes from (`i + k`, `i - k`, `(i + rot) % len`), so that no caller has
to compute `p + (i - q)`. -/
theorem bitAt_writeBits_readBits (hw : 0 < w) (dst src : Array (BitVec w)) (q p l i : Nat) (σ : Nat → Nat)
    (hq : q % w + l ≤ w) (hp : p % w + l ≤ w) (hin : q < dst.size * w) (hσ : ∀ t, t < l → σ (q + t) = p + t) :
    bitAt (writeBits dst q l (readBits src p l)) i =
      if q ≤ i ∧ i < q + l then bitAt src (σ i) else bitAt dst i := by
  rw [bitAt_writeBits dst q l i _ hw hq hin (readBits_high src p l), getLsbD_readBits src p l _ hp]
  by_cases h : q ≤ i ∧ i < q + l
  · have ht := Nat.sub_lt_left_of_lt_add h.1 h.2
    rw [if_pos h, if_pos h, decide_eq_true ht, Bool.true_and, ← hσ _ ht, Nat.add_sub_cancel' h.1]
  · rw [if_neg h, if_neg h]

/-- One step of the loops that only OR into their target (`&Bvd << n`, rotations): `l` bits of `src` at `p` are OR-ed into
`dst` at `q`; `σ` as in `bitAt_writeBits_readBits`. -/
theorem bitAt_orBits_readBits (hw : 0 < w) (dst src : Array (BitVec w)) (q p l i : Nat) (σ : Nat → Nat)
    (hq : q % w + l ≤ w) (hp : p % w + l ≤ w) (hin : q < dst.size * w) (hσ : ∀ t, t < l → σ (q + t) = p + t) :
    bitAt (orBits dst q (readBits src p l)) i =
      (bitAt dst i || (decide (q ≤ i ∧ i < q + l) && bitAt src (σ i))) := by
  rw [bitAt_orBits dst q l i _ hw hq hin (readBits_high src p l), getLsbD_readBits src p l _ hp]
  by_cases h : q ≤ i ∧ i < q + l
  · have ht := Nat.sub_lt_left_of_lt_add h.1 h.2
    rw [decide_eq_true h, decide_eq_true ht, Bool.true_and, ← hσ _ ht, Nat.add_sub_cancel' h.1]
  · rw [decide_eq_false h]; rfl

theorem range_or (a b c i : Nat) (hab : a ≤ b) (hbc : b ≤ c) :
    (a ≤ i ∧ i < b) ∨ (b ≤ i ∧ i < c) ↔ a ≤ i ∧ i < c :=
  ⟨fun h => h.elim (fun h => ⟨h.1, Nat.lt_of_lt_of_le h.2 hbc⟩) fun h => ⟨Nat.le_trans hab h.1, h.2⟩,
    fun h => (Nat.lt_or_ge i b).elim (fun hi => Or.inl ⟨h.1, hi⟩) fun hi => Or.inr ⟨hi, h.2⟩⟩

theorem range_empty {a b i : Nat} (h : b ≤ a) : ¬ (a ≤ i ∧ i < b) :=
  fun c => Nat.not_le_of_lt (Nat.lt_of_le_of_lt c.1 c.2) h

theorem decide_range_or (a b c i : Nat) (hab : a ≤ b) (hbc : b ≤ c) :
    (decide (a ≤ i ∧ i < b) || decide (b ≤ i ∧ i < c)) = decide (a ≤ i ∧ i < c) := by
  rw [← Bool.decide_or, decide_eq_decide]; exact range_or a b c i hab hbc

theorem ite_ite_same {α : Type} {P Q R : Prop} [Decidable P] [Decidable Q] [Decidable R] (h : P ∨ Q ↔ R)
    (x y : α) : (if P then x else if Q then x else y) = if R then x else y := by
  by_cases hP : P
  · rw [if_pos hP, if_pos (h.mp (Or.inl hP))]
  · by_cases hQ : Q
    · rw [if_neg hP, if_pos hQ, if_pos (h.mp (Or.inr hQ))]
    · rw [if_neg hP, if_neg hQ, if_neg fun c => (h.mpr c).elim hP hQ]

/-- Copying in place in two stages: the first writes the bits in `P`, the second those in `Q`, each bit `i` from `σ i`,
the second reading the array `A'` that the first has left.  If the second does not read what the first wrote, together
they copy `Q ∪ P` from the array `A` they started with. -/
theorem bitAt_copy_copy {A A' : Array (BitVec w)} {r : Nat → Bool} {σ : Nat → Nat} {P Q R : Nat → Prop}
    [DecidablePred P] [DecidablePred Q] [DecidablePred R]
    (h1 : ∀ i, bitAt A' i = if P i then bitAt A (σ i) else bitAt A i)
    (h2 : ∀ i, r i = if Q i then bitAt A' (σ i) else bitAt A' i)
    (hsep : ∀ i, Q i → ¬ P (σ i)) (hR : ∀ i, Q i ∨ P i ↔ R i) (i : Nat) :
    r i = if R i then bitAt A (σ i) else bitAt A i := by
  rw [h2]
  by_cases hQ : Q i
  · rw [if_pos hQ, if_pos ((hR i).mp (Or.inl hQ)), h1, if_neg (hsep i hQ)]
  · rw [if_neg hQ, h1]
    by_cases hP : P i
    · rw [if_pos hP, if_pos ((hR i).mp (Or.inr hP))]
    · rw [if_neg hP, if_neg fun c => ((hR i).mpr c).elim hQ hP]

/-- upward loops: `l = min (w - a % w) (w - b % w)`, or less -/
theorem fit_up (hw : 0 < w) {a b l : Nat} (hl : l ≤ min (w - a % w) (w - b % w)) :
    a % w + l ≤ w ∧ b % w + l ≤ w :=
  ⟨Nat.add_le_of_le_sub' (Nat.le_of_lt (Nat.mod_lt a hw)) (Nat.le_trans hl (Nat.min_le_left ..)),
   Nat.add_le_of_le_sub' (Nat.le_of_lt (Nat.mod_lt b hw)) (Nat.le_trans hl (Nat.min_le_right ..))⟩

/-- the chunk `[n - l, n)` stays inside the word of bit `n - 1` -/
theorem sub_fit (hw : 0 < w) {n l : Nat} (hn : 0 < n) (hl1 : 0 < l) (hl : l ≤ (n - 1) % w + 1) :
    l ≤ n ∧ (n - l) % w + l ≤ w := by
  obtain ⟨p, rfl⟩ := Nat.exists_eq_succ_of_ne_zero (Nat.ne_of_gt hn)
  rw [Nat.succ_sub_one] at hl
  obtain ⟨t, ht⟩ := Nat.exists_eq_add_of_le hl
  have hle : l + t ≤ w := Nat.le_trans (Nat.le_of_eq ht.symm) (Nat.mod_lt p hw)
  have e : p + 1 = p / w * w + t + l := by
    rw [Nat.add_assoc, Nat.add_comm t l, ← ht, ← Nat.add_assoc, Nat.div_add_mod']
  rw [Nat.sub_eq_of_eq_add e, Nat.mul_add_mod', Nat.mod_eq_of_lt (Nat.lt_of_lt_of_le (Nat.lt_add_of_pos_left hl1) hle)]
  exact ⟨by rw [Nat.succ_eq_add_one, e]; exact Nat.le_add_left .., Nat.add_comm l t ▸ hle⟩

/-- downward loops from `n` to `k` with `l = min ((n - 1) % w + 1) ((n - k - 1) % w + 1)`: what the step
`n ↦ n - l` needs, for the target chunk at `n - l` and the source chunk at `n - l - k` -/
theorem fit_down (hw : 0 < w) {n k l : Nat} (hlt : k < n)
    (hl : l = min ((n - 1) % w + 1) ((n - k - 1) % w + 1)) :
    (0 < l ∧ n - l + l = n ∧ k ≤ n - l) ∧ (n - l) % w + l ≤ w ∧ (n - l - k) % w + l ≤ w := by
  subst hl
  have h0 := Nat.lt_min.mpr ⟨Nat.succ_pos ((n - 1) % w), Nat.succ_pos ((n - k - 1) % w)⟩
  obtain ⟨h1, hq⟩ := sub_fit hw (Nat.zero_lt_of_lt hlt) h0 (Nat.min_le_left ..)
  obtain ⟨h2, hp⟩ := sub_fit hw (Nat.sub_pos_of_lt hlt) h0 (Nat.min_le_right ..)
  rw [Nat.sub_right_comm] at hp
  exact ⟨⟨h0, Nat.sub_add_cancel h1, Nat.le_sub_of_add_le' (Nat.add_le_of_le_sub (Nat.le_of_lt hlt) h2)⟩, hq, hp⟩

end Bva
