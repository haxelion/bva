import BvaProofs.Rechunk
import BvaModel.Auto
/-!
What the kernel theorems ask of an operand; `AnyBv.Inv` (`Refine.lean`) gives each of them (`AnyBv.Inv.div`, `.compat`,
`.srcOk`, `.srcJ`).  What the operators fetch (`Bvf.rhsWord_val`, `Bvf.rhsWord_bits`, `Bvd.rhsWords_val`, …) follows from the
chunk description `spl_Src`.
The invariant of a `Bv` is spelt in four ways: `div_BvInv b` (the kernel lemmas), `b.invB = true` (the executable check;
`Parse.lean`), `b.raw.Inv` (the payload alone; `Hash.lean`) and `(Vec.a b).Inv` (the API level), bridged by
`div_BvInv_iff_invB`, `div_BvInv_raw`, `Vec.inv_a`; read as an operand a `Bv` meets `div_AnyInv` (`div_BvInv.any`).
-/
namespace Bva

theorem Compat.refl {w : Nat} (hw : 0 < w) : Compat w w := ⟨hw, hw, Or.inl (Nat.dvd_refl w)⟩
theorem Compat.of_dvd {w J : Nat} (hw : 0 < w) (hJ : 0 < J) (h : J ∣ w) : Compat w J := ⟨hw, hJ, Or.inl h⟩
theorem Compat.symm {w J : Nat} (h : Compat w J) : Compat J w := ⟨h.2.1, h.1, h.2.2.symm⟩
theorem compat64 : Compat 64 64 := Compat.refl (by decide)

/-- invariant of a right-hand operand of `div_rem` -/
def div_AnyInv : AnyBv → Prop
  | .f w b => 0 < w ∧ b.Inv
  | .d b => b.Inv

/-- word width of an operand -/
def div_anyW : AnyBv → Nat
  | .f w _ => w
  | .d _ => 64

/-- side conditions on a generic source operand: its word width is compatible with the target's, and
its storage invariant holds -/
def cnv_SrcOk (w : Nat) : AnyBv → Prop
  | .f w1 b => Compat w1 w ∧ b.Inv
  | .d b => Compat 64 w ∧ b.Inv

theorem div_srcOk {x : AnyBv} {w : Nat} (hx : div_AnyInv x) (hc : Compat (div_anyW x) w) : cnv_SrcOk w x := by
  cases x with
  | f w1 b => exact ⟨hc, hx.2⟩
  | d b => exact ⟨hc, hx⟩

/-- what `append`/`prepend` need of the operand `x`, read in `J`-bit chunks.  Holds whenever the operand
satisfies its storage invariant and its word width is compatible with `J` (`spl_Src.of_f`, `spl_Src.of_d`).
`none0` is there for the `match x.get_int(0) with None` of an unaligned `append`: only an empty operand takes it. -/
structure spl_Src (x : AnyBv) (J : Nat) : Prop where
  bits : ∀ idx j, ((x.getInt J idx).getD 0#J).getLsbD j = (decide (j < J) && x.abs.bit (idx * J + j))
  wf : x.abs.WF
  none0 : x.getInt J 0 = none → x.len = 0

theorem spl_src_raw {w J : Nat} (b : Raw w) (hc : Compat w J) (h : b.Inv) :
    (∀ idx j, ((b.getInt J idx).getD 0#J).getLsbD j = (decide (j < J) && b.abs.bit (idx * J + j))) ∧
    b.abs.WF ∧ (b.getInt J 0 = none → b.length = 0) := by
  refine ⟨fun idx j => ?_, Raw.Inv.wf h hc.1, fun hn => ?_⟩
  · rw [Raw.getInt_getLsbD b hc h, Raw.abs_bit _ _ hc.1]
  · refine Nat.eq_zero_of_not_pos fun hpos => ?_
    have := (Raw.getInt_isSome b hc h 0).mpr (by rw [Nat.zero_mul]; exact hpos)
    rw [hn] at this
    cases this

theorem spl_Src.of_f {w J : Nat} (b : Raw w) (hc : Compat w J) (h : b.Inv) : spl_Src (.f w b) J :=
  let ⟨h1, h2, h3⟩ := spl_src_raw b hc h; ⟨h1, h2, h3⟩

theorem spl_Src.of_d {J : Nat} (b : Raw 64) (hc : Compat 64 J) (h : b.Inv) : spl_Src (.d b) J :=
  let ⟨h1, h2, h3⟩ := spl_src_raw b hc h; ⟨h1, h2, h3⟩

theorem spl_Src.of_div {x : AnyBv} {J : Nat} (hx : div_AnyInv x) (hc : Compat (div_anyW x) J) : spl_Src x J := by
  cases x with
  | f w b => exact .of_f b hc hx.2
  | d b => exact .of_d b hc hx

theorem spl_Src.bit_of_lt {x : AnyBv} {J : Nat} (hx : spl_Src x J) (i : Nat) {j : Nat} (hj : j < J) :
    ((x.getInt J i).getD 0#J).getLsbD j = x.abs.bit (i * J + j) := by
  rw [hx.bits, decide_eq_true hj, Bool.true_and]

/-- the converse of `none0` -/
theorem AnyBv.getInt_none_of_len (x : AnyBv) (J : Nat) (h : x.len = 0) : x.getInt J 0 = none := by
  cases x <;> exact if_neg fun hlt => Nat.not_lt_zero _ (Nat.lt_of_lt_of_eq hlt h)

theorem spl_Src.valF_mod {x : AnyBv} {J : Nat} (hx : spl_Src x J) (hJ : 0 < J) (n : Nat) :
    valF (fun i => (x.getInt J i).getD 0#J) n = x.abs.val % 2 ^ (J * n) :=
  valF_eq_mod_of_bits hJ _ n _ fun i _ _ hj => hx.bit_of_lt i hj

theorem spl_Src.valF_eq {x : AnyBv} {J : Nat} (hx : spl_Src x J) (hJ : 0 < J) (n : Nat) (hn : x.len ≤ J * n) :
    valF (fun i => (x.getInt J i).getD 0#J) n = x.abs.val :=
  (hx.valF_mod hJ n).trans (Nat.mod_eq_of_lt
    (lt_two_pow_of_le hx.wf (AnyBv.abs_len x ▸ hn)))

/-! The operand as the operators fetch it — `Bvf.rhsWord` (word `i` at the subject's width; words of the same type are
copied, others re-chunked) and `Bvd.rhsWords` (64-bit words) — carries the operand's bits. -/

theorem Bvf.rhsWord_bits {w : Nat} (hw : 0 < w) (N : Nat) (x : AnyBv) (hx : spl_Src x w) (i j : Nat)
    (hi : i < N) (hj : j < w) :
    (Bvf.rhsWord w N x i).getLsbD j = x.abs.bit (i * w + j) := by
  have fetch := hx.bit_of_lt i hj
  cases x with
  | d b => exact fetch
  | f w2 b =>
    unfold Bvf.rhsWord
    by_cases hww : w = w2
    · -- same word type: the words are copied; beyond the operand's storage `wd` reads zero as well
      subst hww
      have e : (if i < min N b.data.size then (wd b.data i).setWidth w else 0#w) = wd b.data i := by
        by_cases hlt : i < min N b.data.size
        · rw [if_pos hlt, BitVec.setWidth_eq]
        · rw [if_neg hlt, wd_oob _ _ (Nat.not_lt.mp fun h => hlt (Nat.lt_min.mpr ⟨hi, h⟩))]
      simp only [if_true, e]
      exact (getLsbD_wd _ _ _ hj).trans (Raw.abs_bit b _ hw).symm
    · simp only [hww, if_false]
      exact fetch

theorem Bvf.rhsWord_val {w : Nat} (hw : 0 < w) (N : Nat) (x : AnyBv) (hx : spl_Src x w) :
    valF (Bvf.rhsWord w N x) N = x.abs.val % 2 ^ (w * N) :=
  valF_eq_mod_of_bits hw _ _ _ fun i j hi hj => Bvf.rhsWord_bits hw N x hx i j hi hj

theorem Bvd.rhsWords_getLsbD (x : AnyBv) (hx : spl_Src x 64) (i j : Nat) (hj : j < 64) :
    ((Bvd.rhsWords x).2 i).getLsbD j = x.abs.bit (i * 64 + j) := by
  cases x with
  | d b =>
    -- `Bvd.rhsWords` unfolded once, here, instead of by the unifier at each step below
    show (wd b.data i).getLsbD j = _
    exact (getLsbD_wd _ _ _ hj).trans (Raw.abs_bit b _ (by decide)).symm
  | f w b => exact hx.bit_of_lt i hj

theorem Bvd.rhsWords_len_le (x : AnyBv) : x.len ≤ 64 * (Bvd.rhsWords x).1 := by
  rw [Nat.mul_comm]
  cases x <;> exact le_cap_mul (w := 64) _ (by decide)

/-- the form `Bvd.bitopAssign_refines` asks for -/
theorem Bvd.rhsWords_bits (x : AnyBv) (hx : spl_Src x 64) (i j : Nat) (hj : j < 64) :
    (if i < (Bvd.rhsWords x).1 then ((Bvd.rhsWords x).2 i).getLsbD j else false) = x.abs.bit (i * 64 + j) := by
  by_cases hge : i < (Bvd.rhsWords x).1
  · rw [if_pos hge, Bvd.rhsWords_getLsbD x hx i j hj]
  · have hlen : x.abs.len ≤ i * 64 + j :=
      calc x.abs.len = x.len := AnyBv.abs_len x
        _ ≤ 64 * (Bvd.rhsWords x).1 := Bvd.rhsWords_len_le x
        _ ≤ 64 * i := Nat.mul_le_mul_left 64 (Nat.not_lt.mp hge)
        _ = i * 64 := Nat.mul_comm 64 i
        _ ≤ i * 64 + j := Nat.le_add_right _ j
    rw [if_neg hge, BV.bit_of_le_len x.abs hx.wf _ hlen]

theorem Bvd.rhsWords_val (x : AnyBv) (hx : spl_Src x 64) (n : Nat) :
    valF (Bvd.rhsWords x).2 n = x.abs.val % 2 ^ (64 * n) :=
  valF_eq_mod_of_bits (by decide) _ _ _ fun i j _ hj => Bvd.rhsWords_getLsbD x hx i j hj

theorem Bvd.rhsWords_lt (x : AnyBv) (hx : spl_Src x 64) : x.abs.val < 2 ^ (64 * (Bvd.rhsWords x).1) :=
  lt_two_pow_of_le hx.wf (AnyBv.abs_len x ▸ Bvd.rhsWords_len_le x)

/-- storage invariant of `Bv` (Prop form of `Bv.invB`): the variant's invariant; `Fixed` holds exactly two words -/
def div_BvInv : Bv → Prop
  | .fixed b => b.Inv ∧ b.data.size = 2
  | .dynamic b => b.Inv

theorem div_BvInv_raw {t : Bv} (h : div_BvInv t) : t.raw.Inv := by
  cases t with
  | fixed b => exact h.1
  | dynamic b => exact h

theorem div_BvInv_iff_invB (t : Bv) : div_BvInv t ↔ t.invB = true := by
  cases t with
  | fixed b =>
    show (b.Inv ∧ b.data.size = 2) ↔ (b.invB && b.data.size == 2) = true
    rw [Bool.and_eq_true, Raw.invB_iff b (by decide), beq_iff_eq]
  | dynamic b => exact (Raw.invB_iff b (by decide)).symm

/-- a `Bv` as an operand: a `Bvf<u64,2>` or a `Bvd`, 64-bit words either way -/
theorem div_BvInv.any {t : Bv} (h : div_BvInv t) : div_AnyInv t.any := by
  cases t with
  | fixed b => exact ⟨by decide, h.1⟩
  | dynamic b => exact h

theorem Bv.any_w (t : Bv) : div_anyW t.any = 64 := by cases t <;> rfl

/-- a `Bv` as the operand of `append` / `prepend`: `Bvf` reads it in bytes (`J = 8`), `Bvd` in words (`J = 64`) -/
theorem ag_src_of_bv (t : Bv) (h : div_BvInv t) : spl_Src t.any 8 ∧ spl_Src t.any 64 :=
  have c8 : Compat 64 8 := .of_dvd (by decide) (by decide) (by decide)
  ⟨.of_div h.any (Bv.any_w t ▸ c8), .of_div h.any (Bv.any_w t ▸ compat64)⟩

end Bva
