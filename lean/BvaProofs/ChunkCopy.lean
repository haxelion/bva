import BvaProofs.Rechunk
/-!
Copying a bit sequence, chunk by chunk, into a store that is read and written `J` bits at a time (`spl_Sys`): `spl_Copied`
says how far a copy has got, every write is one `spl_Copied.step`.  `append` / `prepend` (Splice.lean) and `from_slice`
(Conv.lean) are such copies; `spl_sysF` is the store a `Raw w` is through `get_int::<J>` / `set_int::<J>`.
-/
namespace Bva

/-- a store of type `σ` read bitwise by `bits`, written `J` bits at a time by `put` (writes beyond bit `L`
are dropped), read `J` bits at a time by `get`; `P` is the invariant under which this holds -/
structure spl_Sys {J : Nat} {σ : Type} (bits : σ → Nat → Bool) (put : σ → Nat → BitVec J → σ)
    (get : σ → Nat → BitVec J) (P : σ → Prop) (L : Nat) : Prop where
  put_P : ∀ a idx v, P a → P (put a idx v)
  put_bits : ∀ a idx v i, P a → bits (put a idx v) i =
    if idx * J ≤ i ∧ i < idx * J + J ∧ i < L then v.getLsbD (i - idx * J) else bits a i
  get_bits : ∀ a idx j, P a → (get a idx).getLsbD j = (decide (j < J) && bits a (idx * J + j))

/-- the operand as a sequence of `J`-bit chunks `g` of the bit function `G`, which vanishes from `xlen` on -/
structure spl_Chunks {J : Nat} (g : Nat → BitVec J) (G : Nat → Bool) (xlen : Nat) : Prop where
  g_bits : ∀ idx j, (g idx).getLsbD j = (decide (j < J) && G (idx * J + j))
  G_zero : ∀ t, xlen ≤ t → G t = false

section Generic
variable {J : Nat} {σ : Type} {bits : σ → Nat → Bool} {put : σ → Nat → BitVec J → σ}
  {get : σ → Nat → BitVec J} {P : σ → Prop} {L : Nat} {g : Nat → BitVec J} {G : Nat → Bool} {xlen : Nat}

/-- A copy in progress: `a` is `a1` with the bit sequence `C` OR-ed in at chunk `slide`, as far as `k` chunks.
Every write of `append` and `prepend` (the first, which ORs into a partly used chunk, those of the loops and
the last) takes `k` to `k + 1` (`spl_Copied.step`). -/
def spl_Copied (bits : σ → Nat → Bool) (P : σ → Prop) (J L : Nat) (a1 : σ) (C : Nat → Bool) (slide k : Nat)
    (a : σ) : Prop :=
  P a ∧ ∀ t, bits a t =
    (bits a1 t || (decide (slide * J ≤ t ∧ t < (slide + k) * J ∧ t < L) && C (t - slide * J)))

theorem spl_Copied.zero (a1 : σ) (C : Nat → Bool) (slide : Nat) (h1 : P a1) :
    spl_Copied bits P J L a1 C slide 0 a1 :=
  ⟨h1, fun t => by
    rw [Nat.add_zero, decide_eq_false fun c => Nat.not_le.mpr c.2.1 c.1, Bool.false_and, Bool.or_false]⟩

theorem spl_Copied.step (sys : spl_Sys bits put get P L) {a1 a : σ} {C : Nat → Bool} {slide k : Nat}
    (h : spl_Copied bits P J L a1 C slide k a) (v : BitVec J)
    (hv : ∀ j, j < J → v.getLsbD j = (bits a1 ((slide + k) * J + j) || C (k * J + j))) :
    spl_Copied bits P J L a1 C slide (k + 1) (put a (k + slide) v) := by
  refine ⟨sys.put_P _ _ _ h.1, fun t => ?_⟩
  have e : (slide + (k + 1)) * J = (slide + k) * J + J := by rw [← Nat.add_assoc, Nat.succ_mul]
  rw [sys.put_bits _ _ _ _ h.1, h.2 t, Nat.add_comm k slide, e]
  by_cases c : (slide + k) * J ≤ t ∧ t < (slide + k) * J + J ∧ t < L
  · -- inside the chunk written, at `t = (slide + k) * J + j`, the new bit is `hv`; `t - slide * J = k * J + j`
    obtain ⟨j, rfl⟩ := Nat.exists_eq_add_of_le c.1
    rw [if_pos c, Nat.add_sub_cancel_left, hv j (Nat.lt_of_add_lt_add_left c.2.1),
      decide_eq_true ⟨Nat.le_trans (Nat.mul_le_mul_right J (Nat.le_add_right slide k)) c.1, c.2.1, c.2.2⟩,
      Bool.true_and, Nat.add_mul, Nat.add_assoc, Nat.add_sub_cancel_left]
  · -- outside it the windows of `k` and of `k + 1` chunks agree
    rw [if_neg c]
    exact congrArg (bits a1 t || · && _) (decide_eq_decide.mpr ⟨fun c2 => ⟨c2.1, Nat.lt_add_right J c2.2.1, c2.2.2⟩,
      fun c3 => ⟨c3.1, Nat.lt_of_not_le fun h' => c ⟨h', c3.2.1, c3.2.2⟩, c3.2.2⟩⟩)

theorem spl_Copied.step_put (sys : spl_Sys bits put get P L) {a1 a : σ} {C : Nat → Bool} {slide k : Nat}
    (h : spl_Copied bits P J L a1 C slide k a) (v : BitVec J)
    (hz : ∀ j, j < J → bits a1 ((slide + k) * J + j) = false) (hv : ∀ j, j < J → v.getLsbD j = C (k * J + j)) :
    spl_Copied bits P J L a1 C slide (k + 1) (put a (k + slide) v) :=
  h.step sys v fun j hj => by rw [hz j hj, hv j hj, Bool.false_or]

theorem spl_Copied.loop (sys : spl_Sys bits put get P L) {a1 a : σ} {C : Nat → Bool} {slide lo hi : Nat}
    (hle : lo ≤ hi) (h : spl_Copied bits P J L a1 C slide lo a) (c : Nat → BitVec J)
    (hz : ∀ k j, lo ≤ k → k < hi → j < J → bits a1 ((slide + k) * J + j) = false)
    (hc : ∀ k j, lo ≤ k → k < hi → j < J → (c k).getLsbD j = C (k * J + j)) :
    spl_Copied bits P J L a1 C slide hi (forRange lo hi (fun i a => put a (i + slide) (c i)) a) :=
  forRange_inv (spl_Copied bits P J L a1 C slide) _ lo hi hle
    (fun k _ h1 h2 ih => ih.step_put sys (c k) (fun j => hz k j h1 h2) (fun j => hc k j h1 h2)) a h

/-- the copy runs in whole chunks from chunk `slide`, so the sequence copied is `G` behind `offset` zeros: `G` lands at
bit `slide * J + offset` -/
theorem spl_Copied.done (src : spl_Chunks g G xlen) {a1 a : σ} {slide k offset : Nat}
    (h : spl_Copied bits P J L a1 (fun t => decide (offset ≤ t) && G (t - offset)) slide k a)
    (hz : ∀ i, slide * J + offset ≤ i → bits a1 i = false)
    (hL : slide * J + offset + xlen ≤ L) (hk : offset + xlen ≤ k * J) (i : Nat) :
    bits a i = if i < slide * J + offset then bits a1 i else G (i - (slide * J + offset)) := by
  rw [h.2, Nat.add_mul]
  dsimp only
  by_cases c : i < slide * J + offset
  · -- below `pos = slide * J + offset` nothing was OR-ed in:
    rw [if_pos c]
    by_cases c2 : slide * J ≤ i
    · -- in chunk `slide` the sequence copied has `offset` leading zeros,
      rw [decide_eq_false (Nat.not_le.mpr (Nat.sub_lt_left_of_lt_add c2 c)), Bool.false_and, Bool.and_false,
        Bool.or_false]
    · -- and below chunk `slide` nothing was written
      rw [decide_eq_false (fun c3 => c2 c3.1), Bool.false_and, Bool.or_false]
  · -- from `pos` on the store was empty (`hz`), so the bit is what was OR-ed in:
    have c' := Nat.le_of_not_lt c
    rw [if_neg c, hz i c', Bool.false_or, decide_eq_true (Nat.le_sub_of_add_le' c'), Bool.true_and, ← Nat.sub_add_eq]
    by_cases cu : i - (slide * J + offset) < xlen
    · -- a bit of the operand lies inside the `k` chunks copied and below `L` (`hk`, `hL`);
      have hi : i < slide * J + offset + xlen := (Nat.sub_lt_iff_lt_add' c').mp cu
      rw [decide_eq_true ⟨Nat.le_trans (Nat.le_add_right _ _) c',
        Nat.lt_of_lt_of_le hi (Nat.add_assoc .. ▸ Nat.add_le_add_left hk _), Nat.lt_of_lt_of_le hi hL⟩, Bool.true_and]
    · -- past the operand `G` is zero
      rw [src.G_zero _ (Nat.le_of_not_lt cu), Bool.and_false]

/-- chunk `k + 1` of the operand shifted up by `offset` bits, as the unaligned loop assembles it -/
theorem spl_mix (src : spl_Chunks g G xlen) (offset k j : Nat) (hoJ : offset ≤ J) (hj : j < J) :
    ((g k >>> (J - offset)) ||| (g (k + 1) <<< offset)).getLsbD j =
      (decide (offset ≤ (k + 1) * J + j) && G ((k + 1) * J + j - offset)) := by
  have h := getLsbD_slide g G src.g_bits k (J - offset) j (Nat.sub_le _ _)
  rw [Nat.sub_sub_self hoJ] at h
  rw [h, decide_eq_true hj, Bool.true_and, Nat.succ_mul,
    decide_eq_true (Nat.le_trans hoJ (Nat.le_trans (Nat.le_add_left _ _) (Nat.le_add_right _ _))), Bool.true_and,
    ← Nat.add_sub_assoc hoJ, Nat.sub_add_comm (Nat.le_trans hoJ (Nat.le_add_left _ _))]

theorem spl_mix_first (src : spl_Chunks g G xlen) (offset j : Nat) (hj : j < J) :
    (g 0 <<< offset).getLsbD j = (decide (offset ≤ j) && G (j - offset)) := by
  rw [getLsbD_shiftLeft_of_lt _ _ _ hj, src.g_bits, decide_eq_true (Nat.lt_of_le_of_lt (Nat.sub_le _ _) hj),
    Bool.true_and, Nat.zero_mul, Nat.zero_add]

theorem spl_Chunks.g_zero (src : spl_Chunks g G xlen) (k : Nat) (hk : xlen ≤ k * J) : g k = 0#J := by
  apply BitVec.eq_of_getLsbD_eq
  intro j _
  rw [src.g_bits, src.G_zero _ (Nat.le_trans hk (Nat.le_add_right _ _)), Bool.and_false, BitVec.getLsbD_zero]

theorem spl_Copied.loopPrev (sys : spl_Sys bits put get P L) (src : spl_Chunks g G xlen) (offset : Nat)
    (hoJ : offset ≤ J) {a1 a : σ} {slide n : Nat} (hn : 1 ≤ n)
    (h : spl_Copied bits P J L a1 (fun t => decide (offset ≤ t) && G (t - offset)) slide 1 a)
    (hz : ∀ k j, 1 ≤ k → bits a1 ((slide + k) * J + j) = false) :
    let r := forRange 1 n (fun i (p : σ × BitVec J) =>
      (put p.1 (i + slide) ((p.2 >>> (J - offset)) ||| (g i <<< offset)), g i)) (a, g 0)
    r.2 = g (n - 1) ∧ spl_Copied bits P J L a1 (fun t => decide (offset ≤ t) && G (t - offset)) slide n r.1 :=
  forRange_inv (fun i (p : σ × BitVec J) => p.2 = g (i - 1) ∧
      spl_Copied bits P J L a1 (fun t => decide (offset ≤ t) && G (t - offset)) slide i p.1)
    _ 1 n hn (fun i p hi _ ih => by
      obtain ⟨k, rfl⟩ : ∃ k, i = k + 1 := ⟨i - 1, (Nat.sub_add_cancel hi).symm⟩
      refine ⟨rfl, ?_⟩
      rw [ih.1, Nat.add_sub_cancel]
      exact ih.2.step_put sys _ (fun j _ => hz _ j hi) (fun j hj => spl_mix src offset k j hoJ hj))
    _ ⟨rfl, h⟩

/-- the body shared by `Bvf::append` and `Bvd::append`, over an abstract chunked store -/
def spl_appendG (put : σ → Nat → BitVec J → σ) (get : σ → Nat → BitVec J) (g : Nat → BitVec J)
    (g0 : Option (BitVec J)) (offset slide n : Nat) (a1 : σ) : σ :=
  if offset = 0 then forRange 0 n (fun i a => put a (i + slide) (g i)) a1
  else
    match g0 with
    | some b0 =>
      let r := forRange 1 n (fun i (p : σ × BitVec J) =>
          (put p.1 (i + slide) ((p.2 >>> (J - offset)) ||| (g i <<< offset)), g i))
          (put a1 slide (get a1 slide ||| (b0 <<< offset)), b0)
      put r.1 (max n 1 + slide) (r.2 >>> (J - offset))
    | none => a1

theorem spl_append_core (sys : spl_Sys bits put get P L) (src : spl_Chunks g G xlen)
    (g0 : Option (BitVec J)) (offset slide n : Nat) (a1 : σ) (h1 : P a1) (hoJ : offset < J)
    (hz : ∀ i, slide * J + offset ≤ i → bits a1 i = false)
    (hL : slide * J + offset + xlen ≤ L) (hn : xlen ≤ n * J)
    (hnone : g0 = none → xlen = 0) (hsome : ∀ b, g0 = some b → b = g 0 ∧ 1 ≤ n) :
    P (spl_appendG put get g g0 offset slide n a1) ∧
    ∀ i, bits (spl_appendG put get g g0 offset slide n a1) i =
      if i < slide * J + offset then bits a1 i else G (i - (slide * J + offset)) := by
  -- all writes copy chunks of the operand shifted up by `offset` bits to chunk `slide` onwards
  have hz' : ∀ k j, offset ≤ k * J → bits a1 ((slide + k) * J + j) = false := fun k j hk =>
    hz _ (by rw [Nat.add_mul, Nat.add_assoc]; exact Nat.add_le_add_left (Nat.le_trans hk (Nat.le_add_right _ _)) _)
  have hJk : ∀ k, 1 ≤ k → offset ≤ k * J := fun k hk => Nat.le_trans (Nat.le_of_lt hoJ) (Nat.le_mul_of_pos_left J hk)
  have h0 := spl_Copied.zero (bits := bits) (P := P) (J := J) (L := L) a1
    (fun t => decide (offset ≤ t) && G (t - offset)) slide h1
  unfold spl_appendG
  by_cases ho : offset = 0
  · subst ho
    have hc := h0.loop sys (Nat.zero_le n) g
      (fun k j _ _ _ => hz' k j (Nat.zero_le _))
      (fun k j _ _ hj => by rw [src.g_bits, decide_eq_true hj]; rfl)
    exact ⟨hc.1, hc.done src hz hL (by rw [Nat.zero_add]; exact hn)⟩
  · rw [if_neg ho]
    cases g0 with
    | none =>
      -- an empty operand: nothing is written, and `G` is zero like the store from `pos` on
      exact ⟨h1, fun i => (ite_eq_left_iff.mpr fun c =>
        (src.G_zero _ (hnone rfl ▸ Nat.zero_le _)).trans (hz i (Nat.le_of_not_lt c)).symm).symm⟩
    | some b0 =>
      obtain ⟨hb0, hn1⟩ := hsome b0 rfl
      subst hb0
      -- first write: OR the low part of chunk 0 into the partly used chunk `slide`
      have hA := h0.step sys (get a1 slide ||| (g 0 <<< offset)) (fun j hj => by
        rw [BitVec.getLsbD_or, sys.get_bits _ _ _ h1, decide_eq_true hj, Bool.true_and, spl_mix_first src _ _ hj,
          Nat.add_zero, Nat.zero_mul, Nat.zero_add])
      rw [Nat.zero_add slide] at hA
      have hB := hA.loopPrev sys src offset (Nat.le_of_lt hoJ) hn1 fun k j hk => hz' k j (hJk k hk)
      -- last write: one more round of the loop, with the chunk `g n = 0`
      obtain ⟨m, rfl⟩ : ∃ m, n = m + 1 := ⟨n - 1, (Nat.sub_add_cancel hn1).symm⟩
      rw [Nat.max_eq_left hn1]
      dsimp only
      generalize forRange 1 (m + 1) _ (put a1 slide _, g 0) = r at hB ⊢
      have hC := hB.2.step_put sys (r.2 >>> (J - offset)) (fun j _ => hz' _ j (hJk _ hn1)) (fun j hj => by
        have h := spl_mix src offset m j (Nat.le_of_lt hoJ) hj
        rw [src.g_zero (m + 1) hn, BitVec.zero_shiftLeft, BitVec.or_zero] at h
        rw [hB.1]
        exact h)
      exact ⟨hC.1, hC.done src hz hL (by
        rw [Nat.succ_mul (m + 1), Nat.add_comm]; exact Nat.add_le_add hn (Nat.le_of_lt hoJ))⟩

/-- the body shared by `Bvf::prepend` and `Bvd::prepend` after the shift, over an abstract chunked store -/
def spl_prependG (put : σ → Nat → BitVec J → σ) (get : σ → Nat → BitVec J) (g : Nat → BitVec J)
    (last : Nat) (a2 : σ) : σ :=
  put (forRange 0 last (fun i a => put a i (g i)) a2) last
    (get (forRange 0 last (fun i a => put a i (g i)) a2) last ||| g last)

theorem spl_prepend_core (sys : spl_Sys bits put get P L) (src : spl_Chunks g G xlen)
    (last : Nat) (a2 : σ) (h2 : P a2) (hlo : last * J ≤ xlen) (hhi : xlen ≤ last * J + J) (hL : xlen ≤ L)
    (hz : ∀ i, i < xlen → bits a2 i = false) :
    P (spl_prependG put get g last a2) ∧
    ∀ i, bits (spl_prependG put get g last a2) i = if i < xlen then G i else bits a2 i := by
  unfold spl_prependG
  have hA := (spl_Copied.zero (bits := bits) (P := P) (J := J) (L := L) a2 G 0 h2).loop sys (Nat.zero_le last) g
    (fun k j _ hk hj => hz _ (by
      -- chunk `k < last` ends at or below `last * J ≤ xlen`
      have hk' : k * J + J ≤ last * J := Nat.succ_mul k J ▸ Nat.mul_le_mul_right J hk
      rw [Nat.zero_add]
      exact Nat.lt_of_lt_of_le (Nat.add_lt_add_left hj _) (Nat.le_trans hk' hlo)))
    (fun k j _ _ hj => by rw [src.g_bits, decide_eq_true hj, Bool.true_and])
  simp only [Nat.add_zero] at hA
  -- the last write ORs into the chunk that holds the boundary between the prefix and the old content
  have hB := hA.step sys (get (forRange 0 last (fun i a => put a i (g i)) a2) last ||| g last) (fun j hj => by
    -- what is read back from chunk `last` is still the content of `a2`: the loop has stopped below it
    rw [BitVec.getLsbD_or, sys.get_bits _ _ _ hA.1, src.g_bits, hA.2, decide_eq_true hj, Bool.true_and,
      Bool.true_and, Nat.zero_add,
      decide_eq_false fun c => Nat.not_lt.mpr (Nat.le_add_right _ _) c.2.1, Bool.false_and, Bool.or_false])
  simp only [Nat.add_zero] at hB
  refine ⟨hB.1, fun i => ?_⟩
  rw [hB.2, Nat.zero_mul, Nat.sub_zero, Nat.zero_add, Nat.succ_mul]
  by_cases c : i < xlen
  · rw [if_pos c, hz i c, Bool.false_or,
      decide_eq_true ⟨Nat.zero_le _, Nat.lt_of_lt_of_le c hhi, Nat.lt_of_lt_of_le c hL⟩, Bool.true_and]
  · rw [if_neg c, src.G_zero i (Nat.le_of_not_lt c), Bool.and_false, Bool.or_false]

end Generic

/-- `Bvf` (at `J = 8`): a `Raw` through `get_int::<J>` / `set_int::<J>`; `P` also carries `length` and `data.size` through
the loops -/
theorem spl_sysF {w J : Nat} (hc : Compat w J) (L N : Nat) :
    spl_Sys (J := J) (fun (a : Raw w) i => bitAt a.data i) (fun a idx v => a.setInt J idx v)
      (fun a idx => (a.getInt J idx).getD 0#J) (fun a => a.Inv ∧ a.length = L ∧ a.data.size = N) L := by
  refine { put_P := fun a idx v h => ⟨Raw.setInt_inv a hc h.1 idx v, (Raw.setInt_length ..).trans h.2.1,
                                       (Raw.setInt_size ..).trans h.2.2⟩,
           put_bits := fun a idx v i h => ?_,
           get_bits := fun a idx j h => Raw.getInt_getLsbD a hc h.1 idx j }
  rw [Raw.setInt_bits a hc h.1, h.2.1, Nat.succ_mul]

end Bva
