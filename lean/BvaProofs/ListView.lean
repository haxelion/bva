import BvaProofs.L0
/-!
# The list-of-bits view of the specification: `BV.bits a = (List.range a.len).map a.bit`, and what every edit,
slice and rotation of `BvaModel/Spec.lean` does to that list.
-/
namespace Bva
namespace BV

theorem lv_bits_getElem? (a : BV) (i : Nat) :
    a.bits[i]? = if i < a.len then some (a.bit i) else none := by
  by_cases h : i < a.len
  · rw [if_pos h, List.getElem?_eq_getElem (by rw [bits_length]; exact h), bits_getElem]
  · rw [if_neg h, List.getElem?_eq_none (by rw [bits_length]; exact Nat.le_of_not_lt h)]

theorem lv_bits_eq (a : BV) (l : List Bool) (hl : l.length = a.len)
    (hb : ∀ i (h : i < l.length), l[i] = a.bit i) : a.bits = l := by
  apply List.ext_getElem
  · rw [bits_length, hl]
  · intro i h1 h2
    rw [bits_getElem, hb]

theorem copyRange_bits_list (a : BV) (st en : Nat) (hen : en ≤ a.len) :
    (copyRange a st en).bits = (a.bits.drop st).take (en - st) :=
  lv_bits_eq _ _
    (by rw [List.length_take, List.length_drop, bits_length]; exact Nat.min_eq_left (Nat.sub_le_sub_right hen st))
    fun i h => by
      rw [List.length_take, List.length_drop, bits_length, Nat.min_eq_left (Nat.sub_le_sub_right hen st)] at h
      rw [List.getElem_take, List.getElem_drop, bits_getElem, copyRange_bit, decide_eq_true h, Bool.true_and]

theorem copyRange_bits_drop (a : BV) (st : Nat) : (copyRange a st a.len).bits = a.bits.drop st := by
  rw [copyRange_bits_list a st a.len (Nat.le_refl _),
    List.take_of_length_le (by rw [List.length_drop, bits_length]; exact Nat.le_refl _)]

/-- the left side is `(copyRange a 0 n).bits`, definitionally -/
theorem mk_mod_bits (a : BV) (n : Nat) (hn : n ≤ a.len) : (BV.mk n (a.val % 2 ^ n)).bits = a.bits.take n :=
  copyRange_bits_list a 0 n hn

theorem bits_append (lo hi : BV) (h : lo.WF) : (append lo hi).bits = lo.bits ++ hi.bits :=
  lv_bits_eq _ _ (by rw [List.length_append, bits_length, bits_length]; rfl) fun i _ => by
    rw [append_bit lo hi h, List.getElem_append]
    simp only [bits_length, bits_getElem]
    split <;> rfl

theorem append_splitOff (a : BV) (i : Nat) (h : a.WF) (hi : i ≤ a.len) :
    append (splitOff a i).1 (splitOff a i).2 = a := by
  unfold splitOff copyRange append
  simp only
  rw [Nat.mod_eq_of_lt (shiftRight_lt a h i hi), Nat.shiftRight_eq_div_pow, Nat.mod_add_div', Nat.add_sub_cancel' hi]

theorem splitOff_bits (a : BV) (i : Nat) (h : a.WF) (hi : i ≤ a.len) :
    (splitOff a i).1.bits ++ (splitOff a i).2.bits = a.bits := by
  rw [← bits_append _ _ (splitOff_fst_wf a i), append_splitOff a i h hi]

theorem first_eq_head? (a : BV) : a.first = a.bits.head? := by
  rw [List.head?_eq_getElem?, lv_bits_getElem?]
  unfold first
  by_cases h : a.len = 0
  · rw [if_pos h, if_neg (h ▸ Nat.lt_irrefl 0)]
  · rw [if_neg h, if_pos (Nat.pos_of_ne_zero h)]

theorem last_eq_getLast? (a : BV) : a.last = a.bits.getLast? := by
  rw [List.getLast?_eq_getElem?, bits_length, lv_bits_getElem?]
  unfold last
  by_cases h : a.len = 0
  · rw [if_pos h, if_neg (h ▸ Nat.not_lt_zero _)]
  · rw [if_neg h, if_pos (Nat.sub_one_lt h)]

theorem eq_of_bits (a b : BV) (ha : a.WF) (hb : b.WF) (h : a.bits = b.bits) : a = b := by
  have hl : a.len = b.len := by rw [← bits_length a, ← bits_length b, h]
  refine ext_of_wf ha hb hl fun i hi => ?_
  rw [← bits_getElem a i (by rw [bits_length]; exact hi), ← bits_getElem b i (by rw [bits_length]; exact hl ▸ hi)]
  simp only [h]

theorem eq_iff_bits (a b : BV) (ha : a.WF) (hb : b.WF) : a = b ↔ a.bits = b.bits :=
  ⟨fun h => by rw [h], eq_of_bits a b ha hb⟩

theorem single_bits (b : Bool) : (BV.mk 1 b.toNat).bits = [b] := by
  cases b <;> rfl

theorem push_bits (a : BV) (b : Bool) (ha : a.WF) : (a.push b).bits = a.bits ++ [b] := by
  rw [push_eq_append, bits_append _ _ ha, single_bits]

theorem pop_wf (a : BV) (ha : a.WF) : a.pop.1.WF := by
  unfold pop
  split
  · exact ha
  · exact lv_mod_wf _ _

theorem pop_snd (a : BV) : a.pop.2 = a.bits.getLast? := by
  rw [← last_eq_getLast?]
  unfold pop last
  split <;> rfl

theorem pop_fst_bits (a : BV) : a.pop.1.bits = a.bits.dropLast := by
  unfold pop
  split
  · rename_i h
    rw [List.eq_nil_of_length_eq_zero ((bits_length a).trans h)]
    rfl
  · rw [List.dropLast_eq_take, bits_length]
    exact mk_mod_bits a (a.len - 1) (Nat.sub_le _ _)

theorem pop_bits (a : BV) : a.pop.1.bits = a.bits.dropLast ∧ a.pop.2 = a.bits.getLast? :=
  ⟨pop_fst_bits a, pop_snd a⟩

theorem set_bits (a : BV) (i : Nat) (b : Bool) (hi : i < a.len) : (a.set i b).bits = a.bits.set i b := by
  have _ := hi   -- (the equation also holds for `i ≥ len`, where both sides are `a.bits` — but then `set` is not WF)
  apply lv_bits_eq
  · rw [List.length_set, bits_length]; rfl
  · intro j h
    rw [List.getElem_set, set_bit, bits_getElem]
    by_cases hji : j = i
    · rw [if_pos hji, if_pos hji.symm]
    · rw [if_neg hji, if_neg (fun h => hji h.symm)]

theorem repeat_bits (b : Bool) (n : Nat) : (BV.repeat b n).bits = List.replicate n b :=
  lv_bits_eq _ _ (by rw [List.length_replicate, repeat_len]) fun i hi => by
    rw [List.length_replicate] at hi
    rw [List.getElem_replicate, repeat_bit, decide_eq_true hi, Bool.true_and]

theorem resize_bits_of_le (a : BV) (m : Nat) (b : Bool) (ha : a.WF) (hm : a.len ≤ m) :
    (a.resize m b).bits = a.bits ++ List.replicate (m - a.len) b := by
  rw [resize_eq_append a m b ha hm, bits_append _ _ ha, repeat_bits]

theorem resize_bits (a : BV) (m : Nat) (b : Bool) (ha : a.WF) :
    (a.resize m b).bits = (a.bits ++ List.replicate (m - a.len) b).take m := by
  by_cases hm : a.len ≤ m
  · rw [resize_bits_of_le a m b ha hm, List.take_of_length_le]
    rw [List.length_append, List.length_replicate, bits_length, Nat.add_sub_cancel' hm]; exact Nat.le_refl m
  · have hm := Nat.le_of_not_le hm
    rw [resize_of_le a m b hm, Nat.sub_eq_zero_of_le hm, List.replicate_zero, List.append_nil]
    exact mk_mod_bits a m hm

theorem truncate_bits (a : BV) (m : Nat) : (a.truncate m).bits = a.bits.take m := by
  unfold truncate
  split
  · rename_i h
    rw [resize_of_le a m false (Nat.le_of_lt h)]
    exact mk_mod_bits a m (Nat.le_of_lt h)
  · rename_i h
    rw [List.take_of_length_le (by rw [bits_length]; exact Nat.le_of_not_lt h)]

theorem truncate_wf (a : BV) (m : Nat) (ha : a.WF) : (a.truncate m).WF := by
  unfold truncate
  split
  · exact resize_wf a m false ha
  · exact ha

theorem truncate_of_le (a : BV) (m : Nat) (h : a.len ≤ m) : a.truncate m = a := if_neg (Nat.not_lt.mpr h)

theorem truncate_len (a : BV) (m : Nat) : (a.truncate m).len = min m a.len := by
  unfold truncate
  split
  · rename_i h; exact (resize_len ..).trans (Nat.min_eq_left (Nat.le_of_lt h)).symm
  · rename_i h; exact (Nat.min_eq_right (Nat.le_of_not_lt h)).symm

/-- the left side is the fill bit of `BV.signExtend` -/
theorem sign_eq_getLast (a : BV) : (decide (a.len > 0) && a.bit (a.len - 1)) = a.bits.getLast?.getD false := by
  rw [← last_eq_getLast?]
  unfold last
  by_cases h : a.len = 0
  · rw [if_pos h, decide_eq_false (h ▸ Nat.lt_irrefl 0)]; rfl
  · rw [if_neg h, decide_eq_true (Nat.pos_of_ne_zero h)]; rfl

theorem signExtend_bits (a : BV) (m : Nat) (ha : a.WF) :
    (a.signExtend m).bits = a.bits ++ List.replicate (m - a.len) (a.bits.getLast?.getD false) := by
  unfold signExtend
  split
  · rename_i h
    rw [resize_bits_of_le a m _ ha (Nat.le_of_lt h), sign_eq_getLast]
  · rename_i h
    rw [Nat.sub_eq_zero_of_le (Nat.le_of_not_lt h), List.replicate_zero, List.append_nil]

theorem signExtend_wf (a : BV) (m : Nat) (ha : a.WF) : (a.signExtend m).WF := by
  unfold signExtend
  split
  · exact resize_wf a m _ ha
  · exact ha

theorem signExtend_of_le (a : BV) (m : Nat) (h : m ≤ a.len) : a.signExtend m = a := if_neg (Nat.not_lt.mpr h)

theorem signExtend_len (a : BV) (m : Nat) : (a.signExtend m).len = max m a.len := by
  unfold signExtend
  split
  · rename_i h; exact (resize_len ..).trans (Nat.max_eq_left (Nat.le_of_lt h)).symm
  · rename_i h; exact (Nat.max_eq_right (Nat.le_of_not_lt h)).symm

theorem prepend_bits (a x : BV) (hx : x.WF) : (a.prepend x).bits = x.bits ++ a.bits := by
  rw [lv_prepend_eq_append, bits_append _ _ hx]

theorem prepend_wf (a x : BV) (ha : a.WF) (hx : x.WF) : (a.prepend x).WF := by
  rw [lv_prepend_eq_append]; exact append_wf x a hx ha

theorem lv_insert_eq (a : BV) (i : Nat) (x : BV) (ha : a.WF) (hi : i ≤ a.len) :
    a.insert i x = ((a.splitOff i).1.append x).append (a.splitOff i).2 := by
  unfold insert splitOff append copyRange
  simp only
  -- the values are the same sum once the high part is not reduced;
  -- the lengths are `a.len + x.len` and `i + x.len + (a.len - i)`
  rw [Nat.mod_eq_of_lt (shiftRight_lt a ha i hi), Nat.add_right_comm i, Nat.add_sub_cancel' hi]

theorem insert_wf (a : BV) (i : Nat) (x : BV) (ha : a.WF) (hx : x.WF) (hi : i ≤ a.len) : (a.insert i x).WF := by
  rw [lv_insert_eq a i x ha hi]
  exact append_wf _ _ (append_wf _ _ (splitOff_fst_wf a i) hx) (lv_copyRange_wf a i a.len)

theorem insert_bits (a : BV) (i : Nat) (x : BV) (ha : a.WF) (hx : x.WF) (hi : i ≤ a.len) :
    (a.insert i x).bits = a.bits.take i ++ x.bits ++ a.bits.drop i := by
  rw [lv_insert_eq a i x ha hi, bits_append _ _ (append_wf _ _ (splitOff_fst_wf a i) hx),
    bits_append _ _ (splitOff_fst_wf a i)]
  show (BV.mk i (a.val % 2 ^ i)).bits ++ x.bits ++ (a.copyRange i a.len).bits = _   -- `splitOff` unfolded
  rw [mk_mod_bits a i hi, copyRange_bits_drop]

theorem insert_len (a : BV) (i : Nat) (x : BV) : (a.insert i x).len = a.len + x.len := rfl

theorem extend_bits_wf (bs : List Bool) : ∀ (a : BV), a.WF → (a.extend bs).bits = a.bits ++ bs ∧ (a.extend bs).WF := by
  induction bs with
  | nil => intro a ha; exact ⟨(List.append_nil _).symm, ha⟩
  | cons b bs ih =>
    intro a ha
    -- `a.extend (b :: bs)` is `(a.push b).extend bs`, definitionally
    have h := ih (a.push b) (push_wf a b ha)
    exact ⟨h.1.trans (by rw [push_bits a b ha, List.append_assoc]; rfl), h.2⟩

theorem extend_bits (a : BV) (bs : List Bool) (ha : a.WF) : (a.extend bs).bits = a.bits ++ bs :=
  (extend_bits_wf bs a ha).1

theorem extend_wf (a : BV) (bs : List Bool) (ha : a.WF) : (a.extend bs).WF :=
  (extend_bits_wf bs a ha).2

theorem extend_len (a : BV) (bs : List Bool) : (a.extend bs).len = a.len + bs.length := by
  induction bs generalizing a with
  | nil => rfl
  | cons b bs ih =>
    show ((a.push b).extend bs).len = _
    rw [ih, List.length_cons, Nat.add_comm bs.length 1, ← Nat.add_assoc]; rfl

theorem ofBits_cons (b : Bool) (bs : List Bool) :
    ofBits (b :: bs) = (BV.mk 1 b.toNat).append (ofBits bs) := by
  show BV.mk ((ofBits bs).len + 1) (b.toNat + 2 * (ofBits bs).val) = _   -- `ofBits` unfolded
  unfold append
  rw [Nat.add_comm 1, Nat.pow_one, Nat.mul_comm]

theorem ofBits_bits_wf (bs : List Bool) : (ofBits bs).bits = bs ∧ (ofBits bs).WF := by
  induction bs with
  | nil => exact ⟨rfl, by decide⟩
  | cons b bs ih =>
    rw [ofBits_cons]
    refine ⟨?_, append_wf _ _ (single_wf b) ih.2⟩
    rw [bits_append _ _ (single_wf b), single_bits, ih.1]
    rfl

theorem ofBits_bits (bs : List Bool) : (ofBits bs).bits = bs := (ofBits_bits_wf bs).1

theorem ofBits_wf (bs : List Bool) : (ofBits bs).WF := (ofBits_bits_wf bs).2

theorem ofBits_len (bs : List Bool) : (ofBits bs).len = bs.length := by
  rw [← bits_length, ofBits_bits]

theorem extend_zeros_eq_ofBits (bs : List Bool) : extend (zeros 0) bs = ofBits bs := by
  apply eq_of_bits _ _ (extend_wf _ bs (zeros_wf 0)) (ofBits_wf bs)
  rw [extend_bits _ bs (zeros_wf 0), ofBits_bits]
  rfl

theorem ofBits_bits_self (a : BV) (ha : a.WF) : ofBits a.bits = a :=
  eq_of_bits _ _ (ofBits_wf _) ha (ofBits_bits _)

theorem rotr_bits (a : BV) (k : Nat) (ha : a.WF) (hk : k ≤ a.len) :
    (a.rotr k).bits = a.bits.drop k ++ a.bits.take k := by
  rw [rotr_eq_append a k ha hk, bits_append _ _ (lv_copyRange_wf ..), copyRange_bits_drop]
  exact congrArg _ (mk_mod_bits a k hk)

theorem rotl_bits (a : BV) (k : Nat) (ha : a.WF) (hk : k ≤ a.len) :
    (a.rotl k).bits = a.bits.drop (a.len - k) ++ a.bits.take (a.len - k) := by
  rw [rotl_eq_rotr a k hk, rotr_bits a _ ha (Nat.sub_le _ _)]

theorem rotr_perm (a : BV) (k : Nat) (ha : a.WF) (hk : k ≤ a.len) : (a.rotr k).bits.Perm a.bits := by
  rw [rotr_bits a k ha hk]
  exact List.perm_append_comm.trans (List.take_append_drop _ _ ▸ List.Perm.refl _)

theorem rotl_perm (a : BV) (k : Nat) (ha : a.WF) (hk : k ≤ a.len) : (a.rotl k).bits.Perm a.bits :=
  rotl_eq_rotr a k hk ▸ rotr_perm a _ ha (Nat.sub_le _ _)

theorem rotl_count (a : BV) (k : Nat) (ha : a.WF) (hk : k ≤ a.len) (b : Bool) :
    (a.rotl k).bits.count b = a.bits.count b := (rotl_perm a k ha hk).count_eq b

theorem rotr_count (a : BV) (k : Nat) (ha : a.WF) (hk : k ≤ a.len) (b : Bool) :
    (a.rotr k).bits.count b = a.bits.count b := (rotr_perm a k ha hk).count_eq b

end BV
end Bva
