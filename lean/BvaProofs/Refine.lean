import BvaProofs.Get
import BvaProofs.Mul
import BvaProofs.AutoGlue
import BvaProofs.Dec
/-!
Invariants of operands and vectors (`AnyBv.Inv`, `Vec.Inv`, `Api.Rhs.Inv`) and their bridges to the operand conditions of
the kernel files (`AnyBv.Inv.srcJ`: the chunk description `spl_Src` at every width, from which `Operand.lean` derives what
each operator fetches); and the lemmas that lift a statement about the `Bvf` / `Bvd` bodies to every storage form of `Vec`
(`Vec.withRaw_eq`, `Vec.map2_refines`, `liftF_ok` …).
-/
namespace Bva

/-- word widths Rust can instantiate (and more): 8·2^k. Any two of them are `Compat`. -/
def WOk (w : Nat) : Prop := ∃ k, w = 8 * 2 ^ k

theorem WOk.eight_dvd {w : Nat} (h : WOk w) : 8 ∣ w := by
  obtain ⟨k, rfl⟩ := h; exact ⟨2 ^ k, rfl⟩
theorem WOk.pos {w : Nat} (h : WOk w) : 0 < w := by
  obtain ⟨k, rfl⟩ := h; exact Nat.mul_pos (by decide) (Nat.two_pow_pos k)
theorem WOk.eight_le {w : Nat} (h : WOk w) : 8 ≤ w := Nat.le_of_dvd h.pos h.eight_dvd
theorem WOk.two_le {w : Nat} (h : WOk w) : 2 ≤ w := Nat.le_trans (by decide) h.eight_le
theorem WOk.four_dvd {w : Nat} (h : WOk w) : 4 ∣ w := Nat.dvd_trans (by decide) h.eight_dvd
theorem wok64 : WOk 64 := ⟨3, by decide⟩
theorem wok8 : WOk 8 := ⟨0, by decide⟩

theorem WOk.compat {w1 w2 : Nat} (h1 : WOk w1) (h2 : WOk w2) : Compat w1 w2 := by
  refine ⟨h1.pos, h2.pos, ?_⟩
  obtain ⟨k1, rfl⟩ := h1
  obtain ⟨k2, rfl⟩ := h2
  exact (Nat.le_total k2 k1).imp (fun h => Nat.mul_dvd_mul_left 8 (Nat.pow_dvd_pow 2 h))
    fun h => Nat.mul_dvd_mul_left 8 (Nat.pow_dvd_pow 2 h)

/-- the case split of `Bvd::from(uN)` (`hW` of `Bvd.fromUInt_refines`) -/
theorem WOk.le64_or_dvd {W : Nat} (h : WOk W) : W ≤ 64 ∨ 64 ∣ W := by
  obtain ⟨k, rfl⟩ := h
  exact (Nat.le_total k 3).imp (fun h => Nat.mul_le_mul_left 8 (Nat.pow_le_pow_right (by decide) h))
    fun h => Nat.mul_dvd_mul_left 8 (Nat.pow_dvd_pow 2 h)

/-- invariant of an operand of any implementation.  An operand is only read, so a `Bv::Fixed` operand (`Vec.any` passes it on as
`.f 64 b`) need not say `size = 2` here; the subject of an operation must stay two words, so `Vec.Inv` says it.  Where a body
clones a `Bv` operand as a `Bvf<u64,2>` (`Bv::from(&B)`, `Bv::div_rem`) its lemma asks for `size = 2` in a hypothesis `hk`, which
`Vec.Inv.kind_bv` provides. -/
def AnyBv.Inv : AnyBv → Prop
  | .f w b => WOk w ∧ b.Inv
  | .d b => b.Inv

/-- invariant of a vector of any implementation (for `Bv::Fixed`: exactly two words) -/
def Vec.Inv : Vec → Prop
  | .f w r => WOk w ∧ r.Inv
  | .d r => r.Inv
  | .a (.fixed r) => r.Inv ∧ r.data.size = 2
  | .a (.dynamic r) => r.Inv

theorem Vec.Inv.any {v : Vec} (h : v.Inv) : v.any.Inv := by
  rcases v with _ | _ | _ | _
  · exact h
  · exact h
  · exact ⟨wok64, h.1⟩
  · exact h

theorem Vec.Inv.wpos {v : Vec} (h : v.Inv) : v.WPos := by
  rcases v with _ | _ | _
  · exact h.1.pos
  · trivial
  · trivial

/-- `Vec.Inv` on a `Bv` is `div_BvInv`: the one bridge between the two vocabularies -/
theorem Vec.inv_a {b : Bv} : (Vec.a b).Inv ↔ div_BvInv b := by cases b <;> exact Iff.rfl
theorem Vec.Inv.bvinv {b : Bv} (h : (Vec.a b).Inv) : div_BvInv b := Vec.inv_a.mp h

theorem Vec.Inv.kind_bv {x : Vec} (hx : x.Inv) (hk : x.kind = .bv) (w1 : Nat) (c : Raw w1) (hc : x.any = .f w1 c) :
    w1 = 64 ∧ c.data.size = 2 := by
  rcases x with _ | _ | s | s
  · cases hk
  · cases hk
  · cases hc; exact ⟨rfl, hx.2⟩
  · cases hc

theorem Vec.Inv.len_le_capBits {v : Vec} (hv : v.Inv) : v.len ≤ v.capBits := by
  rcases v with _ | _ | c
  · exact hv.2.1
  · exact hv.1
  · exact Bv.len_le_capacity c hv.bvinv

theorem Vec.any_abs (v : Vec) : v.any.abs = v.abs := by rcases v with _ | _ | _ | _ <;> rfl

theorem AnyBv.Inv.wf {x : AnyBv} (h : x.Inv) : x.abs.WF := by
  cases x with
  | f w b => exact Raw.Inv.wf h.2 h.1.pos
  | d b => exact Raw.Inv.wf h (by decide)

theorem Vec.abs_wf {v : Vec} (h : v.Inv) : v.abs.WF := by
  have := h.any.wf; rwa [Vec.any_abs] at this

theorem Vec.any_len (v : Vec) : v.any.len = v.len := by rw [← AnyBv.abs_len, Vec.any_abs, Vec.abs_len]

theorem Vec.len_of_abs {v : Vec} {X : BV} (h : v.abs = X) : v.len = X.len := by rw [← Vec.abs_len, h]

/-- an operand with `AnyBv.Inv` meets every operand condition of `Operand.lean`, for every target width -/
theorem AnyBv.Inv.div {x : AnyBv} (h : x.Inv) : div_AnyInv x := by
  cases x with
  | f w b => exact ⟨h.1.pos, h.2⟩
  | d b => exact h
theorem AnyBv.Inv.compat {x : AnyBv} (h : x.Inv) {w : Nat} (hw : WOk w) : Compat (div_anyW x) w := by
  cases x with
  | f w1 b => exact h.1.compat hw
  | d b => exact wok64.compat hw
theorem AnyBv.Inv.srcJ {x : AnyBv} (h : x.Inv) {J : Nat} (hJ : WOk J) : spl_Src x J := .of_div h.div (h.compat hJ)
theorem AnyBv.Inv.srcOk {x : AnyBv} (h : x.Inv) {w : Nat} (hw : WOk w) : cnv_SrcOk w x :=
  div_srcOk h.div (h.compat hw)
theorem AnyBv.Inv.src {x : AnyBv} (h : x.Inv) : spl_Src x 8 ∧ spl_Src x 64 := ⟨h.srcJ wok8, h.srcJ wok64⟩

/-- invariant of an operator right-hand side: a vector with its invariant, or a native integer of one of the
six unsigned types with a value in range -/
def Api.Rhs.Inv : Api.Rhs → Prop
  | .vec v => v.Inv
  | .uint W x => WOk W ∧ W ≤ 128 ∧ x < 2 ^ W

/-- what the right-hand side denotes at L0 -/
def Api.Rhs.spec : Api.Rhs → BV
  | .vec v => v.abs
  | .uint W x => ⟨W, x⟩

-- `vec_inv` is an `↔`, not a `rfl` equation: simp has to rewrite with it when it discharges an `Inv` premise
@[e2e]
theorem Api.Rhs.vec_inv (x : Vec) : (Api.Rhs.vec x).Inv ↔ x.Inv := Iff.rfl
@[e2e]
theorem Api.Rhs.vec_spec (x : Vec) : (Api.Rhs.vec x).spec = x.abs := rfl
@[e2e]
theorem Api.Rhs.uint_spec (W x : Nat) : (Api.Rhs.uint W x).spec = ⟨W, x⟩ := rfl

theorem Api.liftUInt_ok (subject : Vec) (W x : Nat) (hW : WOk W) (h128 : W ≤ 128) (hx : x < 2 ^ W) :
    (Api.liftUInt subject W x).Inv ∧ (Api.liftUInt subject W x).abs = ⟨W, x⟩ := by
  have hfix : (AnyBv.f 64 (unwrapD (Bvf.fromUInt 64 2 W x))).Inv ∧
      (AnyBv.f 64 (unwrapD (Bvf.fromUInt 64 2 W x))).abs = ⟨W, x⟩ := by
    obtain ⟨r, hr, hinv, habs, _⟩ := Bvf.fromUInt_inline W x h128 hx
    rw [hr]
    exact ⟨⟨wok64, hinv⟩, habs⟩
  have hdyn : (AnyBv.d (Bvd.fromUInt W x)).Inv ∧ (AnyBv.d (Bvd.fromUInt W x)).abs = ⟨W, x⟩ :=
    Bvd.fromUInt_refines W x hW.le64_or_dvd hx
  cases subject with
  | f w s => exact hfix
  | d s => exact hdyn
  | a b => cases b with
    | fixed s => exact hfix
    | dynamic s => exact hdyn

theorem Api.Rhs.any_ok (subject : Vec) (x : Api.Rhs) (hx : x.Inv) :
    (x.any subject).Inv ∧ (x.any subject).abs = x.spec := by
  cases x with
  | vec v => exact ⟨Vec.Inv.any hx, Vec.any_abs v⟩
  | uint W n => exact Api.liftUInt_ok subject W n hx.1 hx.2.1 hx.2.2

theorem Api.Rhs.spec_wf {x : Api.Rhs} (hx : x.Inv) : x.spec.WF := by
  cases x with
  | vec v => exact Vec.abs_wf hx
  | uint W n => exact hx.2.2

/-! Every `Api` observer reads the record through `withRaw`; every in-place operator runs the `Bvf` body on fixed-capacity
storage (`Bvf<I,N>`, `Bv::Fixed`) and the `Bvd` body on growable storage (`Bvd`, `Bv::Dynamic`).  The lemmas below are those
through which most operators are lifted: they take the four storage forms apart once.

An in-place body must keep `data.size` (third conjunct of `hF`, `hk`), so that a `Bv::Fixed` keeps its two words; the shifts
and rotations ship that fact as separate lemmas (`Raw.shlAssign_size`, `Raw.shrAssign_size`, `Raw.rotl_size`, `Raw.rotr_size`). -/

theorem Vec.withRaw_eq {α : Type} {v : Vec} (hv : v.Inv) (f : BV → α) {k : {w : Nat} → Raw w → α}
    (h : ∀ {w : Nat} (r : Raw w), WOk w → r.Inv → k r = f r.abs) : v.withRaw k = f v.abs := by
  rcases v with ⟨w, s⟩ | s | s | s
  · exact h s hv.1 hv.2
  · exact h s wok64 hv
  · exact h s wok64 hv.1
  · exact h s wok64 hv

theorem Vec.raw_inv_of_inv {v : Vec} (hv : v.Inv) :
    v.withRaw (fun {w} (r : Raw w) => 0 < w ∧ r.Inv) := by
  rcases v with _ | _ | _ | _
  · exact ⟨hv.1.pos, hv.2⟩
  · exact ⟨by decide, hv⟩
  · exact ⟨by decide, hv.1⟩
  · exact ⟨by decide, hv⟩

/-- `v'` is a legitimate successor of `v` that denotes `a`: the invariant holds again, the abstraction is `a`, the type is
kept.  (The `ok` branches of `EditOk` and of the step relation of C03 are this.) -/
def Vec.Refines (v v' : Vec) (a : BV) : Prop := v'.Inv ∧ v'.abs = a ∧ v'.ty = v.ty

/-- the shape of an in-place operator: the `Bvf` body `F` on fixed-capacity storage, the `Bvd` body `D` on growable storage -/
def Vec.map2 (F : {w : Nat} → Raw w → Raw w) (D : Raw 64 → Raw 64) : Vec → Vec
  | .f w s => .f w (F s)
  | .d s => .d (D s)
  | .a (.fixed s) => .a (.fixed (F s))
  | .a (.dynamic s) => .a (.dynamic (D s))

theorem Vec.mapRaw_eq_map2 (v : Vec) (k : {w : Nat} → Raw w → Raw w) : v.mapRaw k = v.map2 k k := by
  rcases v with _ | _ | _ | _ <;> rfl

theorem Vec.map2_refines {F : {w : Nat} → Raw w → Raw w} {D : Raw 64 → Raw 64} {v : Vec} (hv : v.Inv) (g : BV → BV)
    (hF : ∀ {w : Nat} (s : Raw w), WOk w → s.Inv → s.length = v.len →
      (F s).Inv ∧ (F s).abs = g s.abs ∧ (F s).data.size = s.data.size)
    (hD : ∀ s : Raw 64, s.Inv → s.length = v.len → (D s).Inv ∧ (D s).abs = g s.abs) :
    v.Refines (v.map2 F D) (g v.abs) := by
  rcases v with ⟨w, s⟩ | s | s | s
  · have r := hF s hv.1 hv.2 rfl
    exact ⟨⟨hv.1, r.1⟩, r.2.1, congrArg (Ty.f w) r.2.2⟩
  · have r := hD s hv rfl
    exact ⟨r.1, r.2, rfl⟩
  · have r := hF s wok64 hv.1 rfl
    exact ⟨⟨r.1, r.2.2.trans hv.2⟩, r.2.1, rfl⟩
  · have r := hD s hv rfl
    exact ⟨r.1, r.2, rfl⟩

theorem Vec.mapRaw_refines {k : {w : Nat} → Raw w → Raw w} {v : Vec} (hv : v.Inv) (g : BV → BV)
    (hk : ∀ {w : Nat} (s : Raw w), WOk w → s.Inv → s.length = v.len →
      (k s).Inv ∧ (k s).abs = g s.abs ∧ (k s).data.size = s.data.size) :
    v.Refines (v.mapRaw k) (g v.abs) := by
  rw [Vec.mapRaw_eq_map2]
  exact Vec.map2_refines hv g hk fun s hs e => let r := hk s wok64 hs e; ⟨r.1, r.2.1⟩

theorem Vec.mapRaw_refines₂ {β : Type} {k : {w : Nat} → Raw w → Raw w × β} {v : Vec} (hv : v.Inv) (g : BV → BV × β)
    (hk : ∀ {w : Nat} (s : Raw w), WOk w → s.Inv →
      (k s).1.Inv ∧ ((k s).1.abs, (k s).2) = g s.abs ∧ (k s).1.data.size = s.data.size) :
    v.Refines (v.mapRaw fun r => (k r).1) (g v.abs).1 ∧ (v.withRaw fun r => (k r).2) = (g v.abs).2 :=
  ⟨Vec.mapRaw_refines hv (fun a => (g a).1) fun s hw hs _ => let r := hk s hw hs; ⟨r.1, congrArg Prod.fst r.2.1, r.2.2⟩,
   Vec.withRaw_eq hv (fun a => (g a).2) fun s hw hs => congrArg Prod.snd (hk s hw hs).2.1⟩

theorem liftF_ok {w N : Nat} {res : Res (Raw w)} {spec : BV} (hw : WOk w)
    (h : ∃ r, res = .ok r ∧ r.Inv ∧ r.abs = spec ∧ r.data.size = N) :
    ∃ v, liftF w res = .ok v ∧ v.Inv ∧ v.abs = spec ∧ v.ty = .f w N :=
  let ⟨r, e, hi, ha, hs⟩ := h; ⟨.f w r, congrArg (liftF w) e, ⟨hw, hi⟩, ha, congrArg (Ty.f w) hs⟩
theorem liftA_ok {res : Res Bv} {spec : BV} (h : ∃ r, res = .ok r ∧ div_BvInv r ∧ r.abs = spec) :
    ∃ v, liftA res = .ok v ∧ v.Inv ∧ v.abs = spec ∧ v.ty = .a :=
  let ⟨r, e, hi, ha⟩ := h; ⟨.a r, congrArg liftA e, Vec.inv_a.mpr hi, ha, rfl⟩
theorem mapD_ok {res : Res (Raw 64)} {spec : BV} (h : ∃ r, res = .ok r ∧ r.Inv ∧ r.abs = spec) :
    ∃ v, res.map Vec.d = .ok v ∧ v.Inv ∧ v.abs = spec ∧ v.ty = .d :=
  let ⟨r, e, hi, ha⟩ := h; ⟨.d r, congrArg (Res.map Vec.d) e, hi, ha, rfl⟩
theorem Vec.ok_d {r : Raw 64} {spec : BV} (h : r.Inv ∧ r.abs = spec) :
    ∃ v, Res.ok (Vec.d r) = .ok v ∧ v.Inv ∧ v.abs = spec ∧ v.ty = .d := ⟨_, rfl, h.1, h.2, rfl⟩
theorem Vec.ok_a {b : Bv} {spec : BV} (h : div_BvInv b ∧ b.abs = spec) :
    ∃ v, Res.ok (Vec.a b) = .ok v ∧ v.Inv ∧ v.abs = spec ∧ v.ty = .a := ⟨_, rfl, Vec.inv_a.mpr h.1, h.2, rfl⟩

/-- of a call known to succeed with a value satisfying `P`: whatever it returns satisfies `P` -/
theorem Res.of_ok {α : Type} {res : Res α} {P : α → Prop} (h : ∃ r, res = .ok r ∧ P r) {r : α} (hr : res = .ok r) : P r := by
  obtain ⟨r', e, hp⟩ := h
  cases hr.symm.trans e
  exact hp
/-- the same of a call that either reports the error `e` or succeeds -/
theorem Res.of_ok_or_err {α : Type} {res : Res α} {P : α → Prop} {a b : Prop} {e : String} (hab : a ∨ b)
    (h : (a → res = .err e) ∧ (b → ∃ r, res = .ok r ∧ P r)) {r : α} (hr : res = .ok r) : P r :=
  hab.elim (fun ha => nomatch hr.symm.trans (h.1 ha)) fun hb => Res.of_ok (h.2 hb) hr

/-- fixed capacity of a vector's type (`none` for the growable types) -/
def Vec.capOpt : Vec → Option Nat
  | .f w r => some (r.data.size * w)
  | _ => none

def Vec.fits (v : Vec) (n : Nat) : Prop :=
  match v.capOpt with
  | some c => n ≤ c
  | none => True

/-- the capacity that a type fixes -/
def Ty.capOpt : Ty → Option Nat
  | .f w N => some (N * w)
  | _ => none
theorem Vec.capOpt_eq_ty (v : Vec) : v.capOpt = v.ty.capOpt := by rcases v with _ | _ | _ <;> rfl
theorem Vec.capOpt_of_ty {v v' : Vec} (h : v'.ty = v.ty) : v'.capOpt = v.capOpt := by
  rw [Vec.capOpt_eq_ty, Vec.capOpt_eq_ty, h]
theorem Vec.fits_of_ty {v v' : Vec} (h : v'.ty = v.ty) (n : Nat) : v'.fits n ↔ v.fits n := by
  unfold Vec.fits; rw [Vec.capOpt_of_ty h]
theorem Vec.fits_mono {v : Vec} {m n : Nat} (h : m ≤ n) (hn : v.fits n) : v.fits m := by
  rcases v with _ | _ | _
  · exact Nat.le_trans h hn
  · exact trivial
  · exact trivial
theorem Vec.Inv.fits_len {v : Vec} (hv : v.Inv) : v.fits v.len := by
  rcases v with _ | _ | _
  · exact hv.2.1
  · exact trivial
  · exact trivial

end Bva
